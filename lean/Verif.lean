import Verif.Basic
import Verif.Model.Lru
import Verif.Model.Fifo
import Verif.Model.Rr
import Verif.Model.Lfu
import Verif.Model.Ttl
import Verif.Model.All

import Verif.Spec.Abstract
import Verif.Spec.AStepLemmas
import Verif.Spec.Atoms
import Verif.Spec.Concrete
import Verif.Spec.Lift
import Verif.Spec.Props
import Verif.Spec.Order
import Verif.ListLemmas
import Verif.Proofs.ModelLemmas

import Verif.Proofs.Refine.PlainInv
import Verif.Proofs.Refine.Rec
import Verif.Proofs.Refine.Fifo
import Verif.Proofs.Refine.Rr
import Verif.Proofs.Refine.Lfu
import Verif.Proofs.Refine.Lfuda
import Verif.Proofs.Refine.UtMap
import Verif.Proofs.Refine.TlruLemmas
import Verif.Proofs.Refine.Tlru
import Verif.Properties

import Verif.Proofs.Order.Ghost
import Verif.Proofs.Order.Cnt
import Verif.Proofs.Order.AgePerm
import Verif.Proofs.Order.LfudaInv
import Verif.Proofs.Order.Rec
import Verif.Proofs.Order.Fifo
import Verif.Proofs.Order.Rr
import Verif.Proofs.Order.Lfu
import Verif.Proofs.Order.Lfuda
import Verif.Proofs.Order.Tlru
import Verif.PropertiesAnyClock
import Verif.PropertiesOrder

import Verif.Proofs.Twin
import Verif.Proofs.NonInterference
import Verif.Proofs.Eager
import Verif.Proofs.BisimUt
import Verif.Proofs.BisimTlru
import Verif.KnownFindings

import Verif.Concrete.Rr
import Verif.Concrete.Slot
import Verif.Concrete.Ttl
import Verif.Concrete.Node
import Verif.Concrete.UtMap
import Verif.Proofs.L2.Lift
import Verif.Proofs.L2.Mem
import Verif.Proofs.L2.Rr
import Verif.Proofs.L2.Slot
import Verif.Proofs.L2.Ttl
import Verif.Proofs.L2.Fifo
import Verif.Proofs.L2.CntGood
import Verif.Proofs.L2.Cnt
import Verif.Proofs.L2.UtMap

import Verif.Conc.Basic
import Verif.Conc.Sim
import Verif.Conc.Exec
import Verif.Conc.Linearizable
import Verif.Conc.WellFormed
import Verif.Conc.Example
import Verif.Conc.Shape
import Verif.Conc.Machine
import Verif.Conc.Guarded
import Verif.Conc.RaceFree
import Verif.Conc.ClockHeld
import Verif.Conc.Atomic
import Verif.PropertiesConc

import Verif.Proto
import Verif.Check
import Verif.CheckL2
import Verif.Accept
import Verif.Twin
import Verif.Lin
import Verif.Proofs.AcceptLemmas
import Verif.Proofs.AcceptSound
import Verif.Proofs.AcceptComplete
import Verif.Proofs.LinSound
import Verif.Proofs.LinBridge
import Verif.Proofs.Capstone
import Verif.Proofs.CapstoneOrder
import Verif.Proofs.CapstoneL2
import Verif.Proofs.CapstoneOrder2
import Verif.Proofs.CapstoneTwin
/-!
# The library root

`lake build` checks what this file reaches, and `import Verif` is how the driver and the check scripts see every
theorem they name; so every module is listed, not only those that nothing else imports.

Not listed, on purpose: `Generated/LockShape.lean` and `Conc/{Table,WrapperTable,RaceFreeTable,GuardedTable,
ClockTable}.lean`.  They instantiate the lock-shape theory at the table translated from the C++ headers on every
run; the checks that own them build them by name, so that a changed locking discipline breaks those builds and
leaves the library and the driver building.
-/
