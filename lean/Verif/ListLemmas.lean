import Verif.Spec.AStepLemmas
/-!
# Entry lists as association lists (`getE` / `delE` / `keys`), and their abstraction `absOf`

Every model keeps its resident entries in a `List Entry` with duplicate-free keys; `absOf` reads such a list
as a state of the reference semantics.  It is the abstraction function of every model (each `X.abs` is `absOf` of
the model's entry list) and is defined here, together with extensionality for abstract states (`A.ext`), because
this file is the dictionary between the two sides; hence the import of `Spec/AStepLemmas.lean` (the `AMap` equations).
Edits of the list and their effect on the abstraction:

| list edit                                          | `(absOf ·).get`           | length         | duplicate-free keys |
|----------------------------------------------------|---------------------------|----------------|---------------------|
| a permutation (`absOf_perm`)                       | unchanged                 | =              | kept                |
| `e :: l` (`absOf_cons`)                            | `set e.key (e.val, e.dl)` | +1             | if `e.key` is fresh |
| `delE l k` (`absOf_delE`)                          | `del k`                   | −1 if resident | kept                |
| `l.filter (now < ·.dl)` (`absOf_filter_reap`)      | `reap now`                |                | kept                |

Everything the models do to their lists is one of these up to a permutation: `l ++ [e]` (`snoc_perm`), `fileCnt l e`,
`Accept.insSorted e l` are `e :: l`; `tail` / `dropLast` of a duplicate-free list are `delE` of the head / last
key (`tail_eq_delE`, `dropLast_eq_delE`); touch, update, access, aging, `setVal`, `Accept.put` *place* an entry:
`l'.Perm (e' :: delE l e'.key)` (`absOf_place` and its companions).
-/
namespace Verif
open Verif.Spec

@[simp] theorem getE_nil (k : Key) : getE [] k = none := rfl

theorem getE_cons (e : Entry) (l : List Entry) (k : Key) :
    getE (e :: l) k = if e.key = k then some e else getE l k := by
  simp only [getE, List.find?_cons]
  by_cases h : e.key = k <;> simp [h]

theorem keys_cons (e : Entry) (t : List Entry) : keys (e :: t) = e.key :: keys t := rfl

theorem keys_append (l₁ l₂ : List Entry) : keys (l₁ ++ l₂) = keys l₁ ++ keys l₂ := List.map_append

theorem getE_key {l : List Entry} {k : Key} {e : Entry} (h : getE l k = some e) : e.key = k := by
  have := List.find?_some h
  simpa using this

theorem getE_mem {l : List Entry} {k : Key} {e : Entry} (h : getE l k = some e) : e ∈ l :=
  List.mem_of_find?_eq_some h

theorem getE_eq_none_iff {l : List Entry} {k : Key} : getE l k = none ↔ k ∉ keys l := by
  rw [getE, keys, List.find?_eq_none, List.mem_map]
  exact ⟨fun h hm => hm.elim fun e he => h e he.1 (decide_eq_true he.2),
    fun h e he hk => h ⟨e, he, of_decide_eq_true hk⟩⟩

theorem mem_keys_iff_getE {l : List Entry} {k : Key} : k ∈ keys l ↔ ∃ e, getE l k = some e := by
  rw [← Option.ne_none_iff_exists', ne_eq, getE_eq_none_iff, Decidable.not_not]

theorem mem_keys_of_getE {l : List Entry} {k : Key} {e : Entry} (h : getE l k = some e) : k ∈ keys l :=
  mem_keys_iff_getE.mpr ⟨e, h⟩

theorem isSome_map_getE {β : Type} {l : List Entry} {f : Entry → β} {u : Key} :
    ((getE l u).map f).isSome = true ↔ u ∈ keys l := by
  rw [Option.isSome_map, Option.isSome_iff_exists, mem_keys_iff_getE]

theorem mem_keys_of_mem {l : List Entry} {e : Entry} (h : e ∈ l) : e.key ∈ keys l :=
  List.mem_map_of_mem (f := (·.key)) h

theorem getE_append (l₁ l₂ : List Entry) (k : Key) :
    getE (l₁ ++ l₂) k = (getE l₁ k).or (getE l₂ k) := List.find?_append

theorem getE_append_single (l : List Entry) (e : Entry) (k : Key) :
    getE (l ++ [e]) k = (getE l k).or (if e.key = k then some e else none) := by
  rw [getE_append, getE_cons, getE_nil]

theorem getE_delE_ne {l : List Entry} {k k' : Key} (h : k' ≠ k) : getE (delE l k) k' = getE l k' := by
  rw [getE, delE, List.find?_filter]
  refine congrArg (List.find? · l) (funext fun e => ?_)
  by_cases he : e.key = k'
  · simp [he, h]
  · simp [he]

theorem keys_delE (l : List Entry) (k : Key) : keys (delE l k) = (keys l).filter (fun x => !decide (x = k)) := by
  rw [keys, keys, List.filter_map]; rfl

theorem mem_keys_delE {l : List Entry} {k x : Key} : x ∈ keys (delE l k) ↔ x ∈ keys l ∧ x ≠ k := by
  rw [keys_delE]; simp

theorem not_mem_keys_delE_self (l : List Entry) (k : Key) : k ∉ keys (delE l k) :=
  fun hm => (mem_keys_delE.mp hm).2 rfl

theorem getE_delE_self (l : List Entry) (k : Key) : getE (delE l k) k = none :=
  getE_eq_none_iff.mpr (not_mem_keys_delE_self l k)

theorem nodup_keys_delE {l : List Entry} (h : (keys l).Nodup) (k : Key) : (keys (delE l k)).Nodup := by
  rw [keys_delE]; exact h.filter _

theorem delE_eq_self_of_not_mem {l : List Entry} {k : Key} (h : k ∉ keys l) : delE l k = l := by
  unfold delE
  rw [List.filter_eq_self]
  intro e he
  have : e.key ≠ k := fun hh => h (hh ▸ mem_keys_of_mem he)
  simp [this]

theorem mem_of_mem_delE {l : List Entry} {k : Key} {x : Entry} (h : x ∈ delE l k) : x ∈ l :=
  (List.mem_filter.mp h).1

theorem length_delE_le (l : List Entry) (k : Key) : (delE l k).length ≤ l.length :=
  List.length_filter_le _ _

theorem keys_perm {l l' : List Entry} (hp : l.Perm l') : (keys l).Perm (keys l') := hp.map _

theorem keys_filter_sublist (l : List Entry) (p : Entry → Bool) : (keys (l.filter p)).Sublist (keys l) :=
  (List.filter_sublist (p := p) (l := l)).map _

theorem keys_map_key {f : Entry → Entry} (hf : ∀ e, (f e).key = e.key) (l : List Entry) :
    keys (l.map f) = keys l := by
  simp only [keys, List.map_map]
  exact List.map_congr_left (fun e _ => hf e)

/-! ## duplicate-free keys: `getE` is membership -/

theorem getE_eq_some_iff {l : List Entry} (hn : (keys l).Nodup) {k : Key} {e : Entry} :
    getE l k = some e ↔ e ∈ l ∧ e.key = k := by
  refine ⟨fun h => ⟨getE_mem h, getE_key h⟩, ?_⟩
  rintro ⟨he, rfl⟩
  induction l with
  | nil => cases he
  | cons x t ih =>
    rw [keys_cons, List.nodup_cons] at hn
    rw [getE_cons]
    rcases List.mem_cons.mp he with rfl | he'
    · simp
    · have hne : ¬ x.key = e.key := fun hh => hn.1 (by rw [hh]; exact mem_keys_of_mem he')
      rw [if_neg hne]
      exact ih hn.2 he'

theorem getE_of_mem {l : List Entry} (hn : (keys l).Nodup) {e : Entry} (he : e ∈ l) :
    getE l e.key = some e := (getE_eq_some_iff hn).mpr ⟨he, rfl⟩

theorem nodup_keys_perm {l l' : List Entry} (hp : l.Perm l') (hn : (keys l).Nodup) : (keys l').Nodup :=
  (keys_perm hp).nodup_iff.mp hn

theorem snoc_perm (l : List Entry) (e : Entry) : (l ++ [e]).Perm (e :: l) := List.perm_append_singleton e l

theorem nodup_keys_snoc {l : List Entry} (hn : (keys l).Nodup) {e : Entry} (he : e.key ∉ keys l) :
    (keys (l ++ [e])).Nodup :=
  nodup_keys_perm (snoc_perm l e).symm (List.nodup_cons.mpr ⟨he, hn⟩)

theorem getE_perm {l l' : List Entry} (hn : (keys l).Nodup) (hp : l.Perm l') (k : Key) :
    getE l k = getE l' k := by
  apply Option.ext
  intro e
  rw [getE_eq_some_iff hn, getE_eq_some_iff (nodup_keys_perm hp hn), hp.mem_iff]

theorem getE_filter {l : List Entry} (hn : (keys l).Nodup) (p : Entry → Bool) (k : Key) :
    getE (l.filter p) k = (getE l k).filter p := by
  apply Option.ext
  intro e
  rw [getE_eq_some_iff (hn.sublist (keys_filter_sublist l p)), Option.filter_eq_some_iff,
    getE_eq_some_iff hn, List.mem_filter]
  exact ⟨fun h => ⟨⟨h.1.1, h.2⟩, h.1.2⟩, fun h => ⟨⟨h.1.1, h.2⟩, h.1.2⟩⟩

theorem tail_eq_delE {e : Entry} {t : List Entry} (hn : (keys (e :: t)).Nodup) : t = delE (e :: t) e.key := by
  rw [keys_cons, List.nodup_cons] at hn
  rw [delE, List.filter_cons_of_neg (by simp)]
  exact (delE_eq_self_of_not_mem hn.1).symm

theorem exists_tail_eq_delE {l : List Entry} (hn : (keys l).Nodup) (hl : l ≠ []) :
    ∃ w x, getE l w = some x ∧ l.tail = delE l w := by
  cases l with
  | nil => exact absurd rfl hl
  | cons e t => exact ⟨e.key, e, by simp [getE_cons], tail_eq_delE hn⟩

theorem dropLast_eq_delE {t : List Entry} {e : Entry} (hn : (keys (t ++ [e])).Nodup) :
    t = delE (t ++ [e]) e.key := by
  rw [keys_append] at hn
  have hd : e.key ∉ keys t := fun hm => (List.nodup_append.mp hn).2.2 _ hm e.key (by simp [keys]) rfl
  rw [delE, List.filter_append, List.filter_cons_of_neg (by simp), List.filter_nil, List.append_nil]
  exact (delE_eq_self_of_not_mem hd).symm

/-! ### replacing the entry of a resident key where it stands (`Fifo.setVal`, `Rr.setVal`) -/

theorem replace_perm {l : List Entry} (hn : (keys l).Nodup) {k : Key} {e : Entry} (hg : getE l k = some e)
    (g : Entry → Entry) : (l.map (fun x => if x.key = k then g x else x)).Perm (g e :: delE l k) := by
  induction l with
  | nil => cases hg
  | cons x t ih =>
    have hn' := hn
    rw [keys_cons, List.nodup_cons] at hn'
    rw [getE_cons] at hg
    by_cases hx : x.key = k
    · rw [if_pos hx] at hg
      obtain rfl : x = e := Option.some.inj hg
      subst hx
      have ht : t.map (fun y => if y.key = x.key then g y else y) = t :=
        (List.map_congr_left (g := id) fun y hy => if_neg fun hh : y.key = x.key =>
          hn'.1 (by rw [← hh]; exact mem_keys_of_mem hy)).trans (List.map_id t)
      rw [List.map_cons, if_pos rfl, ht, ← tail_eq_delE hn]
    · rw [if_neg hx] at hg
      have hd : delE (x :: t) k = x :: delE t k := by simp [delE, hx]
      rw [List.map_cons, if_neg hx, hd]
      exact ((ih hn'.2 hg).cons x).trans (List.Perm.swap _ _ _)

theorem delE_perm {l : List Entry} (hn : (keys l).Nodup) {k : Key} {e : Entry} (hg : getE l k = some e) :
    l.Perm (e :: delE l k) := by
  have := replace_perm hn hg id
  rwa [List.map_congr_left (g := id) (fun x _ => by simp only [id, ite_self]), List.map_id] at this

theorem length_delE_of_getE {l : List Entry} (hn : (keys l).Nodup) {k : Key} {e : Entry}
    (h : getE l k = some e) : (delE l k).length + 1 = l.length := (delE_perm hn h).length_eq.symm

/-! ## the abstraction: an entry list read as a state of the reference semantics -/

def absOf (l : List Entry) : A := ⟨fun k => (getE l k).map (fun e => (e.val, e.dl)), l.length⟩

theorem absOf_size (l : List Entry) : (absOf l).size = l.length := rfl
theorem absOf_get (l : List Entry) (k : Key) : (absOf l).get k = (getE l k).map (fun e => (e.val, e.dl)) := rfl

theorem absOf_get_some {l : List Entry} {k : Key} {e : Entry} (h : getE l k = some e) :
    (absOf l).get k = some (e.val, e.dl) := by rw [absOf_get, h]; rfl

theorem absOf_get_none {l : List Entry} {k : Key} (h : getE l k = none) : (absOf l).get k = none := by
  rw [absOf_get, h]; rfl

theorem Spec.A.ext {a b : A} (h1 : a.get = b.get) (h2 : a.size = b.size) : a = b := by
  cases a; cases b; simp_all

theorem absOf_perm {l l' : List Entry} (hn : (keys l).Nodup) (hp : l.Perm l') : absOf l = absOf l' := by
  apply A.ext
  · funext k; rw [absOf_get, absOf_get, getE_perm hn hp]
  · exact hp.length_eq

theorem absOf_cons (e : Entry) (l : List Entry) :
    (absOf (e :: l)).get = (absOf l).get.set e.key (e.val, e.dl) := by
  funext k
  simp only [absOf_get, AMap.set, getE_cons]
  by_cases h : e.key = k
  · simp [h]
  · have h' : ¬ k = e.key := fun h' => h h'.symm
    simp [h, h']

theorem absOf_delE (l : List Entry) (k : Key) : (absOf (delE l k)).get = (absOf l).get.del k := by
  funext k'
  simp only [absOf_get, AMap.del]
  by_cases h : k' = k
  · subst h; simp [getE_delE_self]
  · simp [h, getE_delE_ne h]

theorem absOf_filter_reap {l : List Entry} (hn : (keys l).Nodup) (now : Time) :
    (absOf (l.filter (fun e => decide (now < e.dl)))).get = (absOf l).get.reap now := by
  funext k
  rw [absOf_get, getE_filter hn, AMap.reap, absOf_get]
  cases getE l k with
  | none => rfl
  | some e => by_cases h : now < e.dl <;> simp [Option.filter, h]

/-! ### placing an entry: `l'.Perm (e :: delE l e.key)` -/

theorem nodup_keys_place {l l' : List Entry} {e : Entry} (hn : (keys l).Nodup)
    (hp : l'.Perm (e :: delE l e.key)) : (keys l').Nodup := by
  refine nodup_keys_perm hp.symm ?_
  rw [keys_cons, List.nodup_cons]
  exact ⟨not_mem_keys_delE_self _ _, nodup_keys_delE hn _⟩

theorem getE_place {l l' : List Entry} {e : Entry} (hn : (keys l).Nodup)
    (hp : l'.Perm (e :: delE l e.key)) (k : Key) : getE l' k = if e.key = k then some e else getE l k := by
  rw [getE_perm (nodup_keys_place hn hp) hp, getE_cons]
  split
  · rfl
  · rename_i h; exact getE_delE_ne (fun h' => h h'.symm)

theorem absOf_place {l l' : List Entry} {e : Entry} (hn : (keys l).Nodup)
    (hp : l'.Perm (e :: delE l e.key)) : (absOf l').get = (absOf l).get.set e.key (e.val, e.dl) := by
  rw [absOf_perm (nodup_keys_place hn hp) hp, absOf_cons, absOf_delE, AMap.set_del]

theorem length_place_old {l l' : List Entry} {e x : Entry} (hn : (keys l).Nodup)
    (hp : l'.Perm (e :: delE l e.key)) (hg : getE l e.key = some x) : l'.length = l.length := by
  rw [hp.length_eq, List.length_cons]; exact length_delE_of_getE hn hg

theorem length_place_new {l l' : List Entry} {e : Entry}
    (hp : l'.Perm (e :: delE l e.key)) (hg : getE l e.key = none) : l'.length = l.length + 1 := by
  rw [hp.length_eq, List.length_cons, delE_eq_self_of_not_mem (getE_eq_none_iff.mp hg)]

theorem mem_place {l l' : List Entry} {e x : Entry} (hp : l'.Perm (e :: delE l e.key)) (hx : x ∈ l') :
    x = e ∨ x ∈ l := by
  rcases List.mem_cons.mp (hp.mem_iff.mp hx) with h | h
  · exact Or.inl h
  · exact Or.inr (mem_of_mem_delE h)

theorem place_of_fresh {l l' : List Entry} {e : Entry} (hg : getE l e.key = none) (hp : l'.Perm (e :: l)) :
    l'.Perm (e :: delE l e.key) := by
  rw [delE_eq_self_of_not_mem (getE_eq_none_iff.mp hg)]; exact hp

/-! ## duplicate-free lists in general -/

theorem length_filter_eq_of_nodup {l₁ l₂ : List Key} (h1 : l₁.Nodup) (h2 : l₂.Nodup)
    (hm : ∀ a, a ∈ l₁ ↔ a ∈ l₂) {p : Key → Bool} :
    (l₁.filter p).length = (l₂.filter p).length :=
  (((List.perm_ext_iff_of_nodup h1 h2).mpr hm).filter p).length_eq

theorem pairwise_inj {α β : Type} {f : α → β} {l : List α} (hp : l.Pairwise fun a b => f a ≠ f b)
    {a b : α} (ha : a ∈ l) (hb : b ∈ l) (hab : f a = f b) : a = b :=
  -- `f a = f b → a = b` holds of an element with itself, and vacuously of two at different positions, either way round
  List.Pairwise.forall_of_forall_of_flip (R := fun a b => f a = f b → a = b) (fun _ _ _ => rfl)
    (hp.imp fun hne heq => absurd heq hne) (hp.imp fun hne heq => absurd heq.symm hne) ha hb hab

theorem eq_of_nodup_map {α β : Type} (f : α → β) {l : List α} (hn : (l.map f).Nodup)
    {a b : α} (ha : a ∈ l) (hb : b ∈ l) (hab : f a = f b) : a = b :=
  pairwise_inj (List.pairwise_map.1 hn) ha hb hab

theorem nodup_of_map {α β : Type} {f : α → β} {l : List α} (hn : (l.map f).Nodup) : l.Nodup :=
  List.Pairwise.of_map f (fun _ _ hne heq => hne (congrArg f heq)) hn

/-! ## `takeWhile` / `dropWhile` of a predicate that holds of a prefix are filters

So for "has expired" (`f a ≤ t`) on a list sorted by deadline `f`. -/

section
variable {α : Type} {l : List α}

theorem takeWhile_eq_filter {p : α → Bool} (h : l.Pairwise (fun a b => p b = true → p a = true)) :
    l.takeWhile p = l.filter p := by
  induction l with
  | nil => rfl
  | cons x xs ih =>
    rw [List.pairwise_cons] at h
    by_cases hx : p x = true
    · rw [List.takeWhile_cons_of_pos hx, List.filter_cons_of_pos hx, ih h.2]
    · rw [List.takeWhile_cons_of_neg hx, List.filter_cons_of_neg hx]
      exact (List.filter_eq_nil_iff.mpr fun b hb hpb => hx (h.1 b hb hpb)).symm

theorem dropWhile_eq_filter {p : α → Bool} (h : l.Pairwise (fun a b => p b = true → p a = true)) :
    l.dropWhile p = l.filter (fun a => !p a) := by
  induction l with
  | nil => rfl
  | cons x xs ih =>
    rw [List.pairwise_cons] at h
    by_cases hx : p x = true
    · rw [List.dropWhile_cons_of_pos hx, List.filter_cons_of_neg (by simp [hx]), ih h.2]
    · rw [List.dropWhile_cons_of_neg hx, List.filter_cons_of_pos (by simp [hx])]
      exact congrArg (x :: ·) (List.filter_eq_self.mpr fun b hb => by simpa using fun hpb => hx (h.1 b hb hpb)).symm

variable {f : α → Nat} (hs : l.Pairwise (fun a b => f a ≤ f b)) (t : Nat)
include hs

theorem pairwise_le_of_sorted : l.Pairwise (fun a b => decide (f b ≤ t) = true → decide (f a ≤ t) = true) :=
  hs.imp fun hab hb => decide_eq_true (Nat.le_trans hab (of_decide_eq_true hb))

theorem takeWhile_le_of_sorted :
    l.takeWhile (fun a => decide (f a ≤ t)) = l.filter (fun a => decide (f a ≤ t)) :=
  takeWhile_eq_filter (pairwise_le_of_sorted hs t)

theorem dropWhile_le_of_sorted :
    l.dropWhile (fun a => decide (f a ≤ t)) = l.filter (fun a => decide (t < f a)) :=
  (dropWhile_eq_filter (pairwise_le_of_sorted hs t)).trans
    (List.filter_congr fun a _ => show (!decide (f a ≤ t)) = decide (t < f a) by simp [← Nat.not_le])

end

/-! ## filing an element behind those that are not later

`fileCnt` (`multimap::emplace`), `Tlru.fileDl` (`do_file_ttl`) and their slot-level counterparts are each defined
by the two equations `file_eq` assumes; what they do is proved of the normal form. -/

section file
variable {α : Type}

theorem file_eq (f : List α → List α) (p : α → Prop) [DecidablePred p] {x : α} (hnil : f [] = [x])
    (hcons : ∀ y ys, f (y :: ys) = if p y then y :: f ys else x :: y :: ys) (l : List α) :
    f l = l.takeWhile (fun y => decide (p y)) ++ x :: l.dropWhile (fun y => decide (p y)) := by
  induction l with
  | nil => exact hnil
  | cons y ys ih =>
    by_cases h : p y
    · simp only [hcons, h, if_true, List.takeWhile_cons, List.dropWhile_cons, decide_true, ih, List.cons_append]
    · simp only [hcons, h, if_false, List.takeWhile_cons, List.dropWhile_cons, decide_false, Bool.false_eq_true,
        List.nil_append]

theorem file_perm {p : α → Bool} (l : List α) (x : α) : (l.takeWhile p ++ x :: l.dropWhile p).Perm (x :: l) :=
  List.perm_middle.trans (.cons x (.of_eq List.takeWhile_append_dropWhile))

theorem takeWhile_congr {p q : α → Bool} {l : List α} (hpq : ∀ x ∈ l, p x = q x) :
    l.takeWhile p = l.takeWhile q := by
  induction l with
  | nil => rfl
  | cons a t ih =>
    simp only [List.takeWhile_cons, hpq a (List.mem_cons_self ..)]
    rw [ih (fun x hx => hpq x (List.mem_cons_of_mem _ hx))]

theorem dropWhile_congr {p q : α → Bool} {l : List α} (hpq : ∀ x ∈ l, p x = q x) :
    l.dropWhile p = l.dropWhile q := by
  induction l with
  | nil => rfl
  | cons a t ih =>
    simp only [List.dropWhile_cons, hpq a (List.mem_cons_self ..)]
    rw [ih (fun x hx => hpq x (List.mem_cons_of_mem _ hx))]

theorem file_congr {p q : α → Bool} {l : List α} (h : ∀ a ∈ l, p a = q a) (x : α) :
    l.takeWhile p ++ x :: l.dropWhile p = l.takeWhile q ++ x :: l.dropWhile q := by
  rw [takeWhile_congr h, dropWhile_congr h]

theorem file_map {β : Type} (f : α → β) {p : α → Bool} {q : β → Bool} {l : List α} (h : ∀ a ∈ l, q (f a) = p a)
    (x : α) :
    (l.takeWhile p ++ x :: l.dropWhile p).map f = (l.map f).takeWhile q ++ f x :: (l.map f).dropWhile q := by
  have e : ∀ a ∈ l, (q ∘ f) a = p a := h
  rw [List.map_append, List.map_cons, List.takeWhile_map, List.dropWhile_map, takeWhile_congr e,
    dropWhile_congr e]

theorem file_sorted (key : α → Nat) {l : List α} (h : l.Pairwise (fun a b => key a ≤ key b)) (x : α) :
    (l.takeWhile (fun y => decide (key y ≤ key x)) ++ x :: l.dropWhile (fun y => decide (key y ≤ key x))).Pairwise
      (fun a b => key a ≤ key b) := by
  induction l with
  | nil => exact List.pairwise_singleton _ _
  | cons y ys ih =>
    have hy := List.pairwise_cons.mp h
    by_cases hle : key y ≤ key x
    · simp only [List.takeWhile_cons, List.dropWhile_cons, hle, decide_true, if_true, List.cons_append]
      refine List.pairwise_cons.mpr ⟨fun z hz => ?_, ih hy.2⟩
      rcases List.mem_cons.mp ((file_perm ys x).mem_iff.mp hz) with rfl | hz
      · exact hle
      · exact hy.1 z hz
    · simp only [List.takeWhile_cons, List.dropWhile_cons, hle, decide_false, Bool.false_eq_true, if_false,
        List.nil_append]
      have hlt : key x ≤ key y := Nat.le_of_lt (Nat.not_le.mp hle)
      refine List.pairwise_cons.mpr ⟨fun z hz => ?_, h⟩
      rcases List.mem_cons.mp hz with rfl | hz
      · exact hlt
      · exact Nat.le_trans hlt (hy.1 z hz)

end file

end Verif
