import Verif.Properties
import Verif.Proofs.Order.Rec
import Verif.Proofs.Order.Fifo
import Verif.Proofs.Order.Rr
import Verif.Proofs.Order.Lfu
import Verif.Proofs.Order.Lfuda
import Verif.Proofs.Order.Tlru
/-!
# The property theorems without the monotone-clock hypothesis (all containers except ut_map / ut_set)

`Properties.lean` / `PropertiesOrder.lean` state every theorem for histories whose clock readings never
decrease (`TimesFrom`).  Sequentially that is `steady_clock`'s contract.  With `thread_safe::yes`,
however, tlru_cache, utlru_cache and lfuda_cache sample the clock *before* they take the lock, so in
lock order (the order in which the calls take effect) the readings can go backwards by the time a
thread waited for the lock.  This file shows that nothing depends on it: for every container whose
invariant does not mention the clock (`Verified.Timeless` — all but ut_map/ut_set, whose readings are
taken under the lock, see `Conc/ClockHeld.lean`) the policy-independent theorems and the replacement-policy
theorems C10–C13, C15, C16 hold for *arbitrary* sequences of clock readings.  C14 (lfuda_cache) has no such
form: its age list is sorted by stamp only if the clock never goes back.
-/
namespace Verif
open Verif.Spec

namespace Verified
variable {σ : Type} (V : Verified σ)

/-- the invariant does not depend on its clock index -/
def Timeless : Prop := ∀ s t t', V.Inv t s → V.Inv t' s

/-- **Refinement** (`history_is_run`), whatever the clock readings. -/
theorem history_is_run_anyclock (ops : List (Time × Op)) (htl : V.Timeless) :
    ARun V.fl V.cap A.empty (V.history ops) (V.abs (V.c.runA V.s0 ops).1) := by
  have := (V.R.runA_anyclock htl V.s0 0 ops (V.inv0 0)).2
  rwa [V.abs0] at this

/-- **C01 (and C04 for tlru/utlru)**: `SeqRules.C01`, whatever the clock readings. -/
theorem C01_anyclock (ops : List (Time × Op)) (htl : V.Timeless)
    (p q : List (Time × Atom)) (now : Time) (k : Key) (pk : Bool) (v : Val) (n : Nat)
    (hsplit : V.history ops = p ++ (now, .look k pk (some (v, n))) :: q) :
    ∃ d, lastWrite p k = some (v, d) ∧ (V.fl = .lazy → now < d) :=
  (V.seqRules_of_run (V.history_is_run_anyclock ops htl)).C01 p q now k pk v n hsplit

/-- **C02 (capacity bound)**: `SeqRules.C02_bound`, whatever the clock readings. -/
theorem C02_bound_anyclock (hfl : V.fl ≠ .eager) (ops : List (Time × Op)) (htl : V.Timeless) :
    (V.abs (V.c.runA V.s0 ops).1).size ≤ V.cap :=
  (V.seqRules_of_run (V.history_is_run_anyclock ops htl)).C02_bound hfl

/-- **C03 (retention)**: `SeqRules.C03`, whatever the clock readings. -/
theorem C03_anyclock (ops : List (Time × Op)) (htl : V.Timeless)
    (p q : List (Time × Atom)) (now : Time) (x : Atom) (hsplit : V.history ops = p ++ (now, x) :: q)
    (hx : x ≠ .clear) :
    ∃ a a' ks, ARun V.fl V.cap A.empty p a ∧ AStep V.fl V.cap a now x a' ∧ allowedLoss a x a' ks ∧
      ∀ k' y, a.get k' = some y → liveAt V.fl now y → k' ∉ ks →
        (∀ k v al d, x = .ins k v al d true → k' ≠ k) → a'.get k' = some y :=
  (V.seqRules_of_run (V.history_is_run_anyclock ops htl)).C03 p q now x hsplit hx

/-- **C05 (TTL retention)**: `SeqRules.C05` (mind its remark on `a'`), whatever the clock readings. -/
theorem C05_anyclock (ops : List (Time × Op)) (htl : V.Timeless)
    (p q : List (Time × Atom)) (now : Time) (k : Key) (pk : Bool) (r : Option (Val × Nat))
    (hsplit : V.history ops = p ++ (now, .look k pk r) :: q) :
    ∃ a a', ARun V.fl V.cap A.empty p a ∧ Coupled a (lastWrite p) ∧
      ∀ y, a.get k = some y → now < y.2 → r.map (·.1) = some y.1 ∧ a' = a :=
  (V.seqRules_of_run (V.history_is_run_anyclock ops htl)).C05 p q now k pk r hsplit

/-- **C09 (allow modes)**: `SeqRules.C09` (mind its remark on `a'`), whatever the clock readings. -/
theorem C09_anyclock (ops : List (Time × Op)) (htl : V.Timeless)
    (p q : List (Time × Atom)) (now : Time) (k : Key) (v : Val) (al : Allow) (d : Time) (ok : Bool)
    (hsplit : V.history ops = p ++ (now, .ins k v al d ok) :: q) :
    ∃ a a', ARun V.fl V.cap A.empty p a ∧
      (al = .insertOrUpdate → ok = true) ∧
      (al = .insert → (ok = true ↔ (a.get k = none ∨ (V.fl = .lazy ∧ ∃ y, a.get k = some y ∧ y.2 ≤ now)))) ∧
      (al = .update → (ok = true ↔ a.get k ≠ none)) ∧
      (ok = false → a' = a) ∧ (ok = true → a'.get k = some (v, d)) :=
  (V.seqRules_of_run (V.history_is_run_anyclock ops htl)).C09 p q now k v al d ok hsplit

/-- **C17 (clean_expired_values)**: `SeqRules.C17`, whatever the clock readings. -/
theorem C17_anyclock (hfl : V.fl ≠ .plain) (ops : List (Time × Op)) (htl : V.Timeless)
    (p q : List (Time × Atom)) (now : Time) (n : Nat)
    (hsplit : V.history ops = p ++ (now, .reap n) :: q) :
    ∃ a a', ARun V.fl V.cap A.empty p a ∧ AStep V.fl V.cap a now (.reap n) a' ∧
      a'.size + n = a.size ∧
      (∀ k y, a.get k = some y → now < y.2 → a'.get k = some y) ∧
      (∀ k y, a'.get k = some y → now < y.2 ∧ a.get k = some y) :=
  (V.seqRules_of_run (V.history_is_run_anyclock ops htl)).C17 hfl p q now n hsplit

end Verified

theorem lruV_timeless (cap : Nat) (h : 0 < cap) : (lruV cap h).Timeless := fun _ _ _ h => h
theorem mruV_timeless (cap : Nat) (h : 0 < cap) : (mruV cap h).Timeless := fun _ _ _ h => h
theorem fifoV_timeless (cap : Nat) (h : 0 < cap) : (fifoV cap h).Timeless := fun _ _ _ h => h
theorem rrV_timeless (cap : Nat) (h : 0 < cap) (rnd : List Nat) (hr : ∀ r ∈ rnd, r < cap) :
    (rrV cap h rnd hr).Timeless := fun _ _ _ h => h
theorem lfuV_timeless (cap : Nat) (h : 0 < cap) : (lfuV cap h).Timeless := fun _ _ _ h => h
theorem lfudaV_timeless (cap : Nat) (h : 0 < cap) (tickMs num den : Nat) :
    (lfudaV cap h tickMs num den).Timeless := fun _ _ _ h => h
theorem tlruV_timeless (cap : Nat) (h : 0 < cap) : (tlruV cap h).Timeless := fun _ _ _ h => h
theorem utlruV_timeless (cap : Nat) (h : 0 < cap) (ttlMs : Nat) : (utlruV cap h ttlMs).Timeless :=
  fun _ _ _ h => h

/-! ## the replacement-policy theorems (C10–C13, C15, C16) over whole histories

`Proofs/Order/*.lean` prove each policy fact for one atom after an arbitrary atom-level run; what it claims in the
library's terms is said there.  Each theorem below reads: for every history of the container there is an
annotated trace `tr` (every atom paired with a model state and a clock reading) whose atoms are exactly the
history's, such that at every accepted insert of a new key in `tr` whose annotation `s` is full, the model steps
by that atom from `s` to some `s'`, and the policy fact holds for `s`, the annotated prefix `p` and `s'`.  That
the annotations are the states the model ran through is how the proofs find `tr` (`Core.history_steps`); the
statements do not say it. -/

/-- **C10 (lru_cache)**: `C10_lru` along an annotated trace of the history (read as said above). -/
theorem C10_lru_history_anyclock (cap : Nat) (hcap : 0 < cap) (ops : List (Time × Op)) :
    ∃ tr : STrace RecState, tr.atoms = (lruV cap hcap).history ops ∧
      ∀ p q s now k v al d, tr = p ++ (s, now, .ins k v al d true) :: q → k ∉ keys s.ents → cap ≤ s.ents.length →
        ∃ s' w, CStep Lru.core s now (.ins k v al d true) s' ∧
          firstIn (useOrder p) (keys s.ents) = some w ∧ Evicts (keys s.ents) (keys s'.ents) k w := by
  obtain ⟨tr, hat, H⟩ := Lru.core.history_steps (Rec.init cap) ops
  refine ⟨tr, hat, fun p q s now k v al d heq hnew hfull => ?_⟩
  obtain ⟨hp, s', hs⟩ := H _ _ _ _ _ heq
  obtain ⟨w, h⟩ := C10_lru cap hcap hp hs hnew hfull
  exact ⟨s', w, hs, h⟩

/-- **C13 (mru_cache)**: `C13_mru` along an annotated trace of the history (read as said above). -/
theorem C13_mru_history_anyclock (cap : Nat) (hcap : 0 < cap) (ops : List (Time × Op)) :
    ∃ tr : STrace RecState, tr.atoms = (mruV cap hcap).history ops ∧
      ∀ p q s now k v al d, tr = p ++ (s, now, .ins k v al d true) :: q → k ∉ keys s.ents → cap ≤ s.ents.length →
        ∃ s' w, CStep Mru.core s now (.ins k v al d true) s' ∧
          lastIn (useOrder p) (keys s.ents) = some w ∧ Evicts (keys s.ents) (keys s'.ents) k w ∧
          lastIn (useOrder (p ++ [(s, now, .ins k v al d true)])) (keys s'.ents) = some k := by
  obtain ⟨tr, hat, H⟩ := Mru.core.history_steps (Rec.init cap) ops
  refine ⟨tr, hat, fun p q s now k v al d heq hnew hfull => ?_⟩
  obtain ⟨hp, s', hs⟩ := H _ _ _ _ _ heq
  obtain ⟨w, h⟩ := C13_mru cap hcap hp hs hnew hfull
  exact ⟨s', w, hs, h⟩

/-- **C12 (fifo_cache)**: `C12_fifo` along an annotated trace of the history (read as said above). -/
theorem C12_fifo_history_anyclock (cap : Nat) (hcap : 0 < cap) (ops : List (Time × Op)) :
    ∃ tr : STrace FifoState, tr.atoms = (fifoV cap hcap).history ops ∧
      ∀ p q s now k v al d, tr = p ++ (s, now, .ins k v al d true) :: q → k ∉ keys s.ents → cap ≤ s.ents.length →
        ∃ s' w, CStep Fifo.core s now (.ins k v al d true) s' ∧
          firstIn (bornOrder (fun s => keys s.ents) p) (keys s.ents) = some w ∧
          Evicts (keys s.ents) (keys s'.ents) k w := by
  obtain ⟨tr, hat, H⟩ := Fifo.core.history_steps (Fifo.init cap) ops
  refine ⟨tr, hat, fun p q s now k v al d heq hnew hfull => ?_⟩
  obtain ⟨hp, s', hs⟩ := H _ _ _ _ _ heq
  obtain ⟨w, h⟩ := C12_fifo cap hcap hp hs hnew hfull
  exact ⟨s', w, hs, h⟩

/-- **C11 (lfu_cache)**: `C11_lfu_count` at every lookup that finds an entry and `C11_lfu_victim`,
along an annotated trace of the history (read as said above). -/
theorem C11_lfu_history_anyclock (cap : Nat) (hcap : 0 < cap) (ops : List (Time × Op)) :
    ∃ tr : STrace LfuState, tr.atoms = (lfuV cap hcap).history ops ∧
      (∀ p q s now k pk v n, tr = p ++ (s, now, .look k pk (some (v, n))) :: q →
        n = useCount (fun s => keys s.ents) (p ++ [(s, now, .look k pk (some (v, n)))]) k) ∧
      (∀ p q s now k v al d, tr = p ++ (s, now, .ins k v al d true) :: q → k ∉ keys s.ents → cap ≤ s.ents.length →
        ∃ s' w, CStep Lfu.core s now (.ins k v al d true) s' ∧ Evicts (keys s.ents) (keys s'.ents) k w ∧
          ∀ u ∈ keys s.ents, useCount (fun s => keys s.ents) p w ≤ useCount (fun s => keys s.ents) p u) := by
  obtain ⟨tr, hat, H⟩ := Lfu.core.history_steps (Lfu.init cap) ops
  refine ⟨tr, hat, fun p q s now k pk v n heq => ?_, fun p q s now k v al d heq hnew hfull => ?_⟩
  · obtain ⟨hp, s', hs⟩ := H _ _ _ _ _ heq
    exact C11_lfu_count cap hcap hp hs
  · obtain ⟨hp, s', hs⟩ := H _ _ _ _ _ heq
    obtain ⟨w, h⟩ := C11_lfu_victim cap hcap hp hs hnew hfull
    exact ⟨s', w, hs, h⟩

/-- **C15 (rr_cache)**: `C15_rr_victim` and `C15_rr_bijection` along an annotated trace of the history (read as said above). -/
theorem C15_rr_history_anyclock (cap : Nat) (hcap : 0 < cap) (rnd : List Nat) (hr : ∀ r ∈ rnd, r < cap)
    (ops : List (Time × Op)) :
    ∃ tr : STrace RrState, tr.atoms = (rrV cap hcap rnd hr).history ops ∧
      ∀ p q s now k v al d, tr = p ++ (s, now, .ins k v al d true) :: q → k ∉ keys s.ents → cap ≤ s.ents.length →
        ∃ s' e, CStep Rr.core s now (.ins k v al d true) s' ∧
          Rr.atSlot s.ents (s.rnd.headD 0) = some e ∧ Evicts (keys s.ents) (keys s'.ents) k e.key ∧
          s'.rnd = s.rnd.tail ∧ s.rnd.headD 0 < cap ∧
          (∀ r, r < cap → ∃ e, e ∈ s.ents ∧ e.slot = r ∧ ∀ e' ∈ s.ents, e'.slot = r → e' = e) ∧
          (∀ e ∈ s.ents, e.slot < cap) := by
  obtain ⟨tr, hat, H⟩ := Rr.core.history_steps (Rr.init cap rnd) ops
  refine ⟨tr, hat, fun p q s now k v al d heq hnew hfull => ?_⟩
  obtain ⟨hp, s', hs⟩ := H _ _ _ _ _ heq
  obtain ⟨e, h1, h2, h3, h4⟩ := C15_rr_victim cap hcap rnd hr hp hs hnew hfull
  exact ⟨s', e, hs, h1, h2, h3, h4, C15_rr_bijection cap hcap rnd hr hp hfull⟩

/-- **C10 and C16 (tlru_cache)**: `C10_tlru` and `C16_tlru` along an annotated trace of the history (read as said above). -/
theorem C10_C16_tlru_history_anyclock (cap : Nat) (hcap : 0 < cap) (ops : List (Time × Op)) :
    ∃ tr : STrace TlruState, tr.atoms = (tlruV cap hcap).history ops ∧
      ∀ p q s now k v al d, tr = p ++ (s, now, .ins k v al d true) :: q → k ∉ keys s.ents → cap ≤ s.ents.length →
        ∃ s', CStep Tlru.core s now (.ins k v al d true) s' ∧
          -- C10: nothing has expired ⇒ least recently used
          ((∀ e ∈ s.ents, now < e.dl) →
            ∃ w, firstIn (useOrder p) (keys s.ents) = some w ∧ Evicts (keys s.ents) (keys s'.ents) k w) ∧
          -- C16: something has expired ⇒ an expired entry goes, every live one stays
          ((∃ e ∈ s.ents, e.dl ≤ now) →
            ∃ w e, getE s.ents w = some e ∧ e.dl ≤ now ∧ Evicts (keys s.ents) (keys s'.ents) k w ∧
              ∀ u e', getE s.ents u = some e' → now < e'.dl → getE s'.ents u = some e') := by
  obtain ⟨tr, hat, H⟩ := Tlru.core.history_steps (Tlru.init cap) ops
  refine ⟨tr, hat, fun p q s now k v al d heq hnew hfull => ?_⟩
  obtain ⟨hp, s', hs⟩ := H _ _ _ _ _ heq
  exact ⟨s', hs, C10_tlru cap hcap hp hs hnew hfull, C16_tlru cap hcap hp hs hnew hfull⟩

/-- **C10 and C16 (utlru_cache)**: `C10_utlru` and `C16_utlru` along an annotated trace of the history (read as said
above), whatever `update_ttl` calls the history contains. -/
theorem C10_C16_utlru_history_anyclock (cap : Nat) (hcap : 0 < cap) (ttlMs : Nat) (ops : List (Time × Op)) :
    ∃ tr : STrace TlruState, tr.atoms = (utlruV cap hcap ttlMs).history ops ∧
      ∀ p q s now k v al d, tr = p ++ (s, now, .ins k v al d true) :: q → k ∉ keys s.ents → cap ≤ s.ents.length →
        ∃ s', CStep Utlru.core s now (.ins k v al d true) s' ∧
          ((∀ e ∈ s.ents, now < e.dl) →
            ∃ w, firstIn (useOrder p) (keys s.ents) = some w ∧ Evicts (keys s.ents) (keys s'.ents) k w) ∧
          ((∃ e ∈ s.ents, e.dl ≤ now) →
            ∃ w e, getE s.ents w = some e ∧ e.dl ≤ now ∧ Evicts (keys s.ents) (keys s'.ents) k w ∧
              ∀ u e', getE s.ents u = some e' → now < e'.dl → getE s'.ents u = some e') := by
  obtain ⟨tr, hat, H⟩ := Utlru.core.history_steps (Utlru.init cap ttlMs) ops
  refine ⟨tr, hat, fun p q s now k v al d heq hnew hfull => ?_⟩
  obtain ⟨hp, s', hs⟩ := H _ _ _ _ _ heq
  exact ⟨s', hs, C10_utlru cap hcap ttlMs hp hs hnew hfull, C16_utlru cap hcap ttlMs hp hs hnew hfull⟩

/-! ## non-vacuity: a history whose clock readings go backwards -/

/-- an insert at 5 ms followed by a find at 3 ms: `C01_anyclock` applies … -/
example := (tlruV 2 (by decide)).C01_anyclock
  [(5 * msNs, .insert 1 10 .insertOrUpdate 100), (3 * msNs, .find 1 false)] (tlruV_timeless 2 (by decide))

/-- … whereas `C01` does not: the readings are not non-decreasing -/
example : ¬ TimesFrom 0 [(5 * msNs, Op.insert 1 10 .insertOrUpdate 100), (3 * msNs, Op.find 1 false)] := by
  simp [TimesFrom, msNs]

end Verif
