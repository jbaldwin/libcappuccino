import Verif.Spec.AStepLemmas
/-!
# Facts about every run of the reference semantics (policy-independent halves of C01–C05, C09, C17)

Nothing here mentions a container: these hold for every victim choice.  What each property claims in the
library's terms is said at `Verified.SeqRules` (`Properties.lean`).
-/
namespace Verif.Spec
open Verif

/-- what is resident is the latest successful write (value and deadline) of its key -/
def Coupled (a : A) (g : AMap) : Prop := ∀ k x, a.get k = some x → g k = some x

theorem coupled_empty : Coupled A.empty AMap.empty := by
  intro k x h; simp [A.empty, AMap.empty] at h

theorem coupled_set {a : AMap} {g : AMap} (h : ∀ k x, a k = some x → g k = some x) (k : Key) (y : Val × Time) :
    ∀ k' x, a.set k y k' = some x → g.set k y k' = some x :=
  fun k' x hx => AMap.set_eq_some_iff.mpr ((AMap.set_eq_some_iff.mp hx).imp_right (And.imp_right (h k' x)))

theorem coupled_del_left {a : AMap} {g : AMap} (h : ∀ k x, a k = some x → g k = some x) (w : Key) :
    ∀ k' x, a.del w k' = some x → g k' = some x :=
  fun k' x hx => h k' x (AMap.del_eq_some_iff.mp hx).2

theorem coupled_del_both {a : AMap} {g : AMap} (h : ∀ k x, a k = some x → g k = some x) (w : Key) :
    ∀ k' x, a.del w k' = some x → g.del w k' = some x :=
  fun k' x hx => AMap.del_eq_some_iff.mpr ((AMap.del_eq_some_iff.mp hx).imp_right (h k' x))

theorem coupled_reap {a : AMap} {g : AMap} (h : ∀ k x, a k = some x → g k = some x) (now : Time) :
    ∀ k' x, a.reap now k' = some x → g k' = some x :=
  fun k' x hx => h k' x (AMap.reap_eq_some_iff.mp hx).1

theorem coupled_step {fl : Flavor} {cap : Nat} {a a' : A} {g : AMap} {now : Time} {x : Atom}
    (hc : Coupled a g) (hs : AStep fl cap a now x a') : Coupled a' (ghost g x) := by
  unfold Coupled at *
  cases x with
  | ins k v al d ok =>
    cases hk : a.get k with
    | some y =>
      by_cases hal : al.upd = true ∨ (fl = .lazy ∧ al.ins = true ∧ y.2 ≤ now)
      · obtain ⟨rfl, hg, _⟩ := (AStep.ins_upd hk hal).mp hs
        rw [hg]; exact coupled_set hc k (v, d)
      · obtain ⟨rfl, rfl⟩ := (AStep.ins_keep hk hal).mp hs
        exact hc
    | none =>
      by_cases hal : al.ins = true
      · by_cases hf : fl ≠ .eager ∧ cap ≤ a.size
        · obtain ⟨rfl, w, _, hg, _⟩ := (AStep.ins_evict hk hal hf).mp hs
          rw [hg]
          exact coupled_set (g := g) (coupled_del_left hc w) k (v, d)
        · obtain ⟨rfl, hg, _⟩ := (AStep.ins_new hk hal hf).mp hs
          rw [hg]; exact coupled_set hc k (v, d)
      · obtain ⟨rfl, rfl⟩ := (AStep.ins_rej hk hal).mp hs
        exact hc
  | look k pk r =>
    cases hk : a.get k with
    | some y =>
      by_cases hx : fl = .lazy ∧ y.2 ≤ now
      · obtain ⟨_, hg, _⟩ := (AStep.look_exp hk hx).mp hs
        rw [hg]; exact coupled_del_left hc k
      · obtain ⟨_, rfl⟩ := (AStep.look_hit hk hx).mp hs; exact hc
    | none => obtain ⟨_, rfl⟩ := (AStep.look_miss hk).mp hs; exact hc
  | del k ok =>
    cases hk : a.get k with
    | some y =>
      obtain ⟨rfl, hg, _⟩ := (AStep.del_hit hk).mp hs
      rw [hg]; exact coupled_del_both hc k
    | none => obtain ⟨rfl, rfl⟩ := (AStep.del_miss hk).mp hs; exact hc
  | clear => intro k x hx; rw [hs.1] at hx; cases hx
  | reap n =>
    by_cases hp : fl = .plain
    · obtain ⟨_, rfl⟩ := (AStep.reap_plain hp).mp hs; exact hc
    · rw [((AStep.reap_ne hp).mp hs).1]; exact coupled_reap hc now
  | pre =>
    by_cases he : fl = .eager
    · rw [((AStep.pre_eager he).mp hs).1]; exact coupled_reap hc now
    · obtain rfl := (AStep.pre_ne he).mp hs; exact hc
  | age n => obtain rfl : a' = a := hs; exact hc
  | setTtl t => obtain rfl : a' = a := hs; exact hc
  | obsSize n => obtain ⟨_, rfl⟩ : _ ∧ a' = a := hs; exact hc
  | obsEmpty b => obtain ⟨_, rfl⟩ : _ ∧ a' = a := hs; exact hc
  | obsCap n => obtain ⟨_, rfl⟩ : _ ∧ a' = a := hs; exact hc

theorem coupled_run {fl : Flavor} {cap : Nat} {a b : A} {g : AMap} {tr : List (Time × Atom)}
    (hc : Coupled a g) (hr : ARun fl cap a tr b) : Coupled b (tr.foldl (fun g x => ghost g x.2) g) := by
  induction hr generalizing g with
  | nil => simpa using hc
  | cons hs _ ih => simp only [List.foldl_cons]; exact ih (coupled_step hc hs)

/-- **C02, reference level** (the flavors other than `.eager` are the bounded ones). -/
theorem size_le_cap_step {fl : Flavor} {cap : Nat} {a a' : A} {now : Time} {x : Atom}
    (hfl : fl ≠ .eager) (hb : a.size ≤ cap) (hs : AStep fl cap a now x a') :
    a'.size ≤ cap := by
  cases x with
  | ins k v al d ok =>
    cases hk : a.get k with
    | some y =>
      by_cases hal : al.upd = true ∨ (fl = .lazy ∧ al.ins = true ∧ y.2 ≤ now)
      · rw [((AStep.ins_upd hk hal).mp hs).2.2]; exact hb
      · rw [((AStep.ins_keep hk hal).mp hs).2]; exact hb
    | none =>
      by_cases hal : al.ins = true
      · by_cases hf : fl ≠ .eager ∧ cap ≤ a.size
        · obtain ⟨_, w, _, _, h⟩ := (AStep.ins_evict hk hal hf).mp hs
          rw [h]; exact hb
        · rw [((AStep.ins_new hk hal hf).mp hs).2.2]
          exact Nat.lt_of_not_le (fun h => hf ⟨hfl, h⟩)
      · rw [((AStep.ins_rej hk hal).mp hs).2]; exact hb
  | look k pk r =>
    cases hk : a.get k with
    | some y =>
      by_cases hx : fl = .lazy ∧ y.2 ≤ now
      · exact Nat.le_trans (Nat.le.intro ((AStep.look_exp hk hx).mp hs).2.2) hb
      · rw [((AStep.look_hit hk hx).mp hs).2]; exact hb
    | none => rw [((AStep.look_miss hk).mp hs).2]; exact hb
  | del k ok =>
    cases hk : a.get k with
    | some y => exact Nat.le_trans (Nat.le.intro ((AStep.del_hit hk).mp hs).2.2) hb
    | none => rw [((AStep.del_miss hk).mp hs).2]; exact hb
  | clear => rw [hs.2]; exact Nat.zero_le _
  | reap n =>
    by_cases hp : fl = .plain
    · rw [((AStep.reap_plain hp).mp hs).2]; exact hb
    · exact Nat.le_trans (Nat.le.intro ((AStep.reap_ne hp).mp hs).2) hb
  | pre => rw [(AStep.pre_ne hfl).mp hs]; exact hb
  | age n => obtain rfl : a' = a := hs; exact hb
  | setTtl t => obtain rfl : a' = a := hs; exact hb
  | obsSize n => obtain ⟨_, rfl⟩ : _ ∧ a' = a := hs; exact hb
  | obsEmpty b => obtain ⟨_, rfl⟩ : _ ∧ a' = a := hs; exact hb
  | obsCap n => obtain ⟨_, rfl⟩ : _ ∧ a' = a := hs; exact hb

theorem size_le_cap_run {fl : Flavor} {cap : Nat} {a b : A} {tr : List (Time × Atom)}
    (hfl : fl ≠ .eager) (hb : a.size ≤ cap) (hr : ARun fl cap a tr b) : b.size ≤ cap := by
  induction hr with
  | nil => exact hb
  | cons hs _ ih => exact ih (size_le_cap_step hfl hb hs)

/-- a run split at one of its atoms, with what every run has kept up to there: `Coupled` and the bound of C02 -/
theorem step_of_run {fl : Flavor} {cap : Nat} {b : A} {p q : List (Time × Atom)} {now : Time} {x : Atom}
    (hr : ARun fl cap A.empty (p ++ (now, x) :: q) b) :
    ∃ a a', ARun fl cap A.empty p a ∧ AStep fl cap a now x a' ∧ Coupled a (lastWrite p) ∧
      (fl ≠ .eager → a.size ≤ cap) := by
  obtain ⟨a, h1, h2⟩ := hr.split
  cases h2 with
  | cons hs _ =>
    exact ⟨a, _, h1, hs, coupled_run coupled_empty h1, fun hfl => size_le_cap_run hfl (Nat.zero_le _) h1⟩

theorem served_is_live {fl : Flavor} {cap : Nat} {a a' : A} {now : Time} {k : Key} {pk : Bool}
    {r : Option (Val × Nat)} {v : Val} (hs : AStep fl cap a now (.look k pk r) a') (hr : r.map (·.1) = some v) :
    ∃ d, a.get k = some (v, d) ∧ (fl = .lazy → now < d) := by
  cases hk : a.get k with
  | none => rw [((AStep.look_miss hk).mp hs).1] at hr; cases hr
  | some y =>
    by_cases hexp : fl = .lazy ∧ y.2 ≤ now
    · rw [((AStep.look_exp hk hexp).mp hs).1] at hr; cases hr
    · obtain rfl : y.1 = v := Option.some.inj (((AStep.look_hit hk hexp).mp hs).1.symm.trans hr)
      exact ⟨y.2, rfl, fun hfl => Nat.lt_of_not_le fun hle => hexp ⟨hfl, hle⟩⟩

/-- **C01 (and C04, lazy flavor), reference level.** -/
theorem lookup_hit_is_last_write {fl : Flavor} {cap : Nat} {b : A} {p q : List (Time × Atom)}
    {now : Time} {k : Key} {pk : Bool} {v : Val} {n : Nat}
    (hr : ARun fl cap A.empty (p ++ (now, .look k pk (some (v, n))) :: q) b) :
    ∃ d, lastWrite p k = some (v, d) ∧ (fl = .lazy → now < d) := by
  obtain ⟨a, a', -, hs, hc, -⟩ := step_of_run hr
  obtain ⟨d, hk, hl⟩ := served_is_live hs rfl
  exact ⟨d, hc k _ hk, hl⟩

/-- is the entry `x` served at `now`? (plain flavor: always; TTL flavors: strictly before the deadline) -/
def liveAt (fl : Flavor) (now : Time) (x : Val × Time) : Prop := fl = .plain ∨ now < x.2

/-- **C03, reference level**: what an atom may take away from the resident *live* entries: at most the
keys in `ks` (`[]`: nothing). -/
def allowedLoss (a : A) : Atom → A → List Key → Prop
  | .del k true, _, ks => ks = [k]
  | .ins k _ _ _ true, a', ks =>
    -- an accepted insert of a new key into a full store: exactly one victim, and the store stays full
    (a.get k = none ∧ a'.size = a.size ∧ ∃ w, ks = [w] ∧ w ≠ k ∧ (a.get w).isSome = true) ∨
    -- any other accepted write: nothing (the written key itself is replaced, not lost)
    ((a.get k ≠ none ∨ a'.size = a.size + 1) ∧ ks = [])
  | _, _, ks => ks = []

theorem retention_refl {fl : Flavor} {a : A} {now : Time} {x : Atom} (hl : allowedLoss a x a []) :
    ∃ ks, allowedLoss a x a ks ∧
      ∀ k' y, a.get k' = some y → liveAt fl now y → k' ∉ ks →
        (∀ k v al d, x = .ins k v al d true → k' ≠ k) → a.get k' = some y :=
  ⟨[], hl, fun _ _ hy _ _ _ => hy⟩

/-- **C03, reference level.** -/
theorem retention_step {fl : Flavor} {cap : Nat} {a a' : A} {now : Time} {x : Atom}
    (hs : AStep fl cap a now x a') (hx : x ≠ .clear) :
    ∃ ks, allowedLoss a x a' ks ∧
      ∀ k' y, a.get k' = some y → liveAt fl now y → k' ∉ ks →
        (∀ k v al d, x = .ins k v al d true → k' ≠ k) → a'.get k' = some y := by
  cases x with
  | clear => exact absurd rfl hx
  | ins k v al d ok =>
    cases hk : a.get k with
    | some y0 =>
      by_cases hal : al.upd = true ∨ (fl = .lazy ∧ al.ins = true ∧ y0.2 ≤ now)
      · obtain ⟨rfl, hg, _⟩ := (AStep.ins_upd hk hal).mp hs
        refine ⟨[], Or.inr ⟨Or.inl (hk ▸ Option.some_ne_none y0), rfl⟩, fun k' y hy _ _ hne => ?_⟩
        rw [hg, AMap.set_ne (hne k v al d rfl)]; exact hy
      · obtain ⟨rfl, rfl⟩ := (AStep.ins_keep hk hal).mp hs
        exact retention_refl rfl
    | none =>
      by_cases hal : al.ins = true
      · by_cases hf : fl ≠ .eager ∧ cap ≤ a.size
        · obtain ⟨rfl, w, hw, hg, hsz⟩ := (AStep.ins_evict hk hal hf).mp hs
          have hwk : w ≠ k := fun h => by rw [h, hk] at hw; cases hw
          refine ⟨[w], Or.inl ⟨hk, hsz, w, rfl, hwk, hw⟩, fun k' y hy _ hnotin hne => ?_⟩
          rw [hg, AMap.set_ne (hne k v al d rfl), AMap.del_ne (fun h => hnotin (List.mem_singleton.mpr h))]; exact hy
        · obtain ⟨rfl, hg, hsz⟩ := (AStep.ins_new hk hal hf).mp hs
          refine ⟨[], Or.inr ⟨Or.inr hsz, rfl⟩, fun k' y hy _ _ hne => ?_⟩
          rw [hg, AMap.set_ne (hne k v al d rfl)]; exact hy
      · obtain ⟨rfl, rfl⟩ := (AStep.ins_rej hk hal).mp hs
        exact retention_refl rfl
  | look k pk r =>
    cases hk : a.get k with
    | some y0 =>
      by_cases hexp : fl = .lazy ∧ y0.2 ≤ now
      · obtain ⟨_, hg, _⟩ := (AStep.look_exp hk hexp).mp hs
        refine ⟨[], rfl, fun k' y hy hlive _ _ => ?_⟩
        by_cases hkk : k' = k
        · subst hkk
          rw [hk] at hy; cases hy
          rcases hlive with h | h
          · rw [h] at hexp; exact nomatch hexp.1
          · exact absurd h (Nat.not_lt.mpr hexp.2)
        · rw [hg, AMap.del_ne hkk]; exact hy
      · obtain ⟨_, rfl⟩ := (AStep.look_hit hk hexp).mp hs; exact retention_refl rfl
    | none => obtain ⟨_, rfl⟩ := (AStep.look_miss hk).mp hs; exact retention_refl rfl
  | del k ok =>
    cases hk : a.get k with
    | some y0 =>
      obtain ⟨rfl, hg, _⟩ := (AStep.del_hit hk).mp hs
      refine ⟨[k], rfl, fun k' y hy _ hnotin _ => ?_⟩
      rw [hg, AMap.del_ne (fun h => hnotin (List.mem_singleton.mpr h))]; exact hy
    | none => obtain ⟨rfl, rfl⟩ := (AStep.del_miss hk).mp hs; exact retention_refl rfl
  | reap n =>
    by_cases hp : fl = .plain
    · obtain ⟨_, rfl⟩ := (AStep.reap_plain hp).mp hs; exact retention_refl rfl
    · refine ⟨[], rfl, fun k' y hy hlive _ _ => ?_⟩
      rw [((AStep.reap_ne hp).mp hs).1]
      exact AMap.reap_eq_some_iff.mpr ⟨hy, hlive.resolve_left hp⟩
  | pre =>
    by_cases he : fl = .eager
    · refine ⟨[], rfl, fun k' y hy hlive _ _ => ?_⟩
      rw [((AStep.pre_eager he).mp hs).1]
      exact AMap.reap_eq_some_iff.mpr ⟨hy, hlive.resolve_left (fun h => by rw [h] at he; cases he)⟩
    · obtain rfl := (AStep.pre_ne he).mp hs; exact retention_refl rfl
  | age n => obtain rfl : a' = a := hs; exact retention_refl rfl
  | setTtl t => obtain rfl : a' = a := hs; exact retention_refl rfl
  | obsSize n => obtain ⟨_, rfl⟩ : _ ∧ a' = a := hs; exact retention_refl rfl
  | obsEmpty b => obtain ⟨_, rfl⟩ : _ ∧ a' = a := hs; exact retention_refl rfl
  | obsCap n => obtain ⟨_, rfl⟩ : _ ∧ a' = a := hs; exact retention_refl rfl

/-- **C04, eager flavor**: right after the prologue every resident entry is strictly before its deadline. -/
theorem pre_fresh {cap : Nat} {a a' : A} {now : Time} (hs : AStep .eager cap a now .pre a') :
    ∀ k y, a'.get k = some y → now < y.2 := by
  intro k y hy
  rw [((AStep.pre_eager rfl).mp hs).1] at hy
  exact (AMap.reap_eq_some_iff.mp hy).2

/-- **C05, reference level.**  Here `a'` is the state after the step: `a' = a` says the lookup removes nothing. -/
theorem live_is_served {fl : Flavor} {cap : Nat} {a a' : A} {now : Time} {k : Key} {pk : Bool}
    {r : Option (Val × Nat)} {y : Val × Time}
    (hs : AStep fl cap a now (.look k pk r) a') (hy : a.get k = some y) (hl : now < y.2 ∨ fl ≠ .lazy) :
    r.map (·.1) = some y.1 ∧ a' = a :=
  (AStep.look_hit hy (fun h => hl.elim (fun h' => Nat.not_le.mpr h' h.2) (fun h' => h' h.1))).mp hs

/-- **C09, reference level.**  Here `a'` is the state after the step: the last two clauses say no effect on
rejection, value and deadline written on success. -/
theorem allow_verdict {fl : Flavor} {cap : Nat} {a a' : A} {now : Time} {k : Key} {v : Val}
    {al : Allow} {d : Time} {ok : Bool} (hs : AStep fl cap a now (.ins k v al d ok) a') :
    (al = .insertOrUpdate → ok = true) ∧
    (al = .insert → (ok = true ↔ (a.get k = none ∨ (fl = .lazy ∧ ∃ y, a.get k = some y ∧ y.2 ≤ now)))) ∧
    (al = .update → (ok = true ↔ a.get k ≠ none)) ∧
    (ok = false → a' = a) ∧
    (ok = true → a'.get k = some (v, d)) := by
  cases hk : a.get k with
  | some y =>
    by_cases hal : al.upd = true ∨ (fl = .lazy ∧ al.ins = true ∧ y.2 ≤ now)
    · obtain ⟨rfl, hg, _⟩ := (AStep.ins_upd hk hal).mp hs
      refine ⟨fun _ => rfl, fun h => ?_, fun _ => by simp, fun h => (nomatch h), fun _ => by rw [hg, AMap.set_eq]⟩
      subst h
      rcases hal with h | h
      · cases h
      · exact ⟨fun _ => Or.inr ⟨h.1, y, rfl, h.2.2⟩, fun _ => rfl⟩
    · obtain ⟨rfl, rfl⟩ := (AStep.ins_keep hk hal).mp hs
      refine ⟨fun h => ?_, fun h => ?_, fun h => ?_, fun _ => rfl, fun h => (nomatch h)⟩
      · subst h; exact absurd (Or.inl rfl) hal
      · subst h
        simp only [Bool.false_eq_true, reduceCtorEq, false_or, false_iff, not_and, not_exists]
        intro hfl z hz hle
        cases hz
        exact hal (Or.inr ⟨hfl, rfl, hle⟩)
      · subst h; exact absurd (Or.inl rfl) hal
  | none =>
    by_cases hal : al.ins = true
    · have hok : ok = true ∧ a'.get k = some (v, d) := by
        by_cases hf : fl ≠ .eager ∧ cap ≤ a.size
        · obtain ⟨rfl, w, _, hg, _⟩ := (AStep.ins_evict hk hal hf).mp hs
          exact ⟨rfl, by rw [hg, AMap.set_eq]⟩
        · obtain ⟨rfl, hg, _⟩ := (AStep.ins_new hk hal hf).mp hs
          exact ⟨rfl, by rw [hg, AMap.set_eq]⟩
      obtain ⟨rfl, hg⟩ := hok
      refine ⟨fun _ => rfl, fun _ => ⟨fun _ => Or.inl rfl, fun _ => rfl⟩, fun h => ?_, fun h => (nomatch h), fun _ => hg⟩
      subst h; cases hal
    · obtain ⟨rfl, rfl⟩ := (AStep.ins_rej hk hal).mp hs
      refine ⟨fun h => ?_, fun h => ?_, fun _ => by simp, fun _ => rfl, fun h => (nomatch h)⟩
      · subst h; exact absurd rfl hal
      · subst h; exact absurd rfl hal

/-- **C17, reference level.** -/
theorem reap_exact {fl : Flavor} {cap : Nat} {a a' : A} {now : Time} {n : Nat}
    (hfl : fl ≠ .plain) (hs : AStep fl cap a now (.reap n) a') :
    a'.size + n = a.size ∧
    (∀ k y, a.get k = some y → now < y.2 → a'.get k = some y) ∧
    (∀ k y, a'.get k = some y → now < y.2 ∧ a.get k = some y) := by
  obtain ⟨hg, hsz⟩ := (AStep.reap_ne hfl).mp hs
  refine ⟨hsz, fun k y hy hl => ?_, fun k y hy => ?_⟩
  · rw [hg]; exact AMap.reap_eq_some_iff.mpr ⟨hy, hl⟩
  · rw [hg] at hy; exact (AMap.reap_eq_some_iff.mp hy).symm

end Verif.Spec
