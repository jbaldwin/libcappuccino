import Verif.Spec.Abstract
/-!
# What the definitions of `Spec/Abstract.lean` say

`AStep` for the atoms that branch (`ins`, `look`, `del`, `reap`, `pre`): one iff per branch of the `match`/`if`
tree, so that a proof about the reference semantics rewrites with the branch it is in — to establish a step
(`.mpr`) or to use one (`.mp`) — instead of unfolding the whole definition.  The other atoms unfold to their
one clause.
-/
namespace Verif.Spec
open Verif

namespace AMap
variable {m : AMap} {k k' : Key} {x y : Val × Time}

theorem set_eq (m : AMap) (k : Key) (x : Val × Time) : m.set k x k = some x := if_pos rfl

theorem set_ne (h : k' ≠ k) : m.set k x k' = m k' := if_neg h

theorem del_eq (m : AMap) (k : Key) : m.del k k = none := if_pos rfl

theorem del_ne (h : k' ≠ k) : m.del k k' = m k' := if_neg h

theorem set_eq_some_iff : m.set k' x k = some y ↔ (k = k' ∧ y = x) ∨ (k ≠ k' ∧ m k = some y) := by
  by_cases h : k = k'
  · subst h
    rw [set_eq]
    exact ⟨fun e => Or.inl ⟨rfl, (Option.some.inj e).symm⟩, fun e => e.elim (fun e => e.2 ▸ rfl) (fun e => absurd rfl e.1)⟩
  · rw [set_ne h]
    exact ⟨fun e => Or.inr ⟨h, e⟩, fun e => e.elim (fun e => absurd e.1 h) (·.2)⟩

theorem del_eq_some_iff : m.del k' k = some y ↔ k ≠ k' ∧ m k = some y := by
  by_cases h : k = k'
  · subst h
    rw [del_eq]
    exact ⟨fun e => (nomatch e), fun e => absurd rfl e.1⟩
  · rw [del_ne h]
    exact ⟨fun e => ⟨h, e⟩, (·.2)⟩

theorem reap_eq_some_iff {now : Time} : m.reap now k = some y ↔ m k = some y ∧ now < y.2 := by
  simp only [AMap.reap, Option.filter_eq_some_iff, decide_eq_true_eq]

theorem exists_set (m : AMap) (k : Key) (x : Val × Time) (P : Val × Time → Prop) (u : Key) :
    (∃ y, m.set k x u = some y ∧ P y) ↔ (u = k ∧ P x) ∨ (u ≠ k ∧ ∃ y, m u = some y ∧ P y) := by
  simp only [set_eq_some_iff, or_and_right, exists_or, and_assoc, exists_and_left, exists_eq_left]

theorem exists_del (m : AMap) (w : Key) (P : Val × Time → Prop) (u : Key) :
    (∃ y, m.del w u = some y ∧ P y) ↔ u ≠ w ∧ ∃ y, m u = some y ∧ P y := by
  simp only [del_eq_some_iff, and_assoc, exists_and_left]

theorem set_del (m : AMap) (k : Key) (x : Val × Time) : (m.del k).set k x = m.set k x := by
  funext k'
  by_cases h : k' = k
  · subst h; rw [set_eq, set_eq]
  · rw [set_ne h, set_ne h, del_ne h]

theorem set_self (h : m k = some x) : m.set k x = m := by
  funext k'
  by_cases h' : k' = k
  · subst h'; rw [set_eq, h]
  · rw [set_ne h']

end AMap

section astep
variable {fl : Flavor} {cap : Nat} {a a' : A} {now : Time}

section ins
variable {k : Key} {v : Val} {al : Allow} {d : Time} {ok : Bool}

theorem AStep.ins_upd {x : Val × Time} (hg : a.get k = some x)
    (hc : al.upd = true ∨ (fl = .lazy ∧ al.ins = true ∧ x.2 ≤ now)) :
    AStep fl cap a now (.ins k v al d ok) a' ↔ ok = true ∧ a'.get = a.get.set k (v, d) ∧ a'.size = a.size := by
  simp only [AStep, hg, if_pos hc]

theorem AStep.ins_keep {x : Val × Time} (hg : a.get k = some x)
    (hc : ¬ (al.upd = true ∨ (fl = .lazy ∧ al.ins = true ∧ x.2 ≤ now))) :
    AStep fl cap a now (.ins k v al d ok) a' ↔ ok = false ∧ a' = a := by
  simp only [AStep, hg, if_neg hc]

theorem AStep.ins_evict (hg : a.get k = none) (hi : al.ins = true) (hf : fl ≠ .eager ∧ cap ≤ a.size) :
    AStep fl cap a now (.ins k v al d ok) a' ↔
      ok = true ∧ ∃ w, (a.get w).isSome = true ∧ a'.get = (a.get.del w).set k (v, d) ∧ a'.size = a.size := by
  simp only [AStep, hg, if_pos hi, if_pos hf]

theorem AStep.ins_new (hg : a.get k = none) (hi : al.ins = true) (hf : ¬ (fl ≠ .eager ∧ cap ≤ a.size)) :
    AStep fl cap a now (.ins k v al d ok) a' ↔
      ok = true ∧ a'.get = a.get.set k (v, d) ∧ a'.size = a.size + 1 := by
  simp only [AStep, hg, if_pos hi, if_neg hf]

theorem AStep.ins_rej (hg : a.get k = none) (hi : ¬ al.ins = true) :
    AStep fl cap a now (.ins k v al d ok) a' ↔ ok = false ∧ a' = a := by
  simp only [AStep, hg, if_neg hi]
end ins

section look
variable {k : Key} {peek : Bool} {r : Option (Val × Nat)}

theorem AStep.look_exp {x : Val × Time} (hg : a.get k = some x) (hc : fl = .lazy ∧ x.2 ≤ now) :
    AStep fl cap a now (.look k peek r) a' ↔ r = none ∧ a'.get = a.get.del k ∧ a'.size + 1 = a.size := by
  simp only [AStep, hg, if_pos hc]

theorem AStep.look_hit {x : Val × Time} (hg : a.get k = some x) (hc : ¬ (fl = .lazy ∧ x.2 ≤ now)) :
    AStep fl cap a now (.look k peek r) a' ↔ r.map (·.1) = some x.1 ∧ a' = a := by
  simp only [AStep, hg, if_neg hc]

theorem AStep.look_miss (hg : a.get k = none) :
    AStep fl cap a now (.look k peek r) a' ↔ r = none ∧ a' = a := by
  simp only [AStep, hg]
end look

theorem AStep.del_hit {k : Key} {ok : Bool} {x : Val × Time} (hg : a.get k = some x) :
    AStep fl cap a now (.del k ok) a' ↔ ok = true ∧ a'.get = a.get.del k ∧ a'.size + 1 = a.size := by
  simp only [AStep, hg]

theorem AStep.del_miss {k : Key} {ok : Bool} (hg : a.get k = none) :
    AStep fl cap a now (.del k ok) a' ↔ ok = false ∧ a' = a := by
  simp only [AStep, hg]

theorem AStep.reap_plain {n : Nat} (hp : fl = .plain) : AStep fl cap a now (.reap n) a' ↔ n = 0 ∧ a' = a := by
  simp only [AStep, if_pos hp]

theorem AStep.reap_plain_self (hp : fl = .plain) : AStep fl cap a now (.reap 0) a :=
  (AStep.reap_plain hp).mpr ⟨rfl, rfl⟩

theorem AStep.reap_ne {n : Nat} (hp : ¬ fl = .plain) :
    AStep fl cap a now (.reap n) a' ↔ a'.get = a.get.reap now ∧ a'.size + n = a.size := by
  simp only [AStep, if_neg hp]

theorem AStep.pre_eager (he : fl = .eager) :
    AStep fl cap a now .pre a' ↔ a'.get = a.get.reap now ∧ a'.size ≤ a.size := by
  simp only [AStep, if_pos he]

theorem AStep.pre_ne (he : ¬ fl = .eager) : AStep fl cap a now .pre a' ↔ a' = a := by
  simp only [AStep, if_neg he]

theorem AStep.pre_self (he : ¬ fl = .eager) : AStep fl cap a now .pre a :=
  (AStep.pre_ne he).mpr rfl

end astep

theorem ARun.append {fl : Flavor} {cap : Nat} {a b c : A} {p q : List (Time × Atom)}
    (h1 : ARun fl cap a p b) (h2 : ARun fl cap b q c) : ARun fl cap a (p ++ q) c := by
  induction h1 with
  | nil => simpa using h2
  | cons hs _ ih => exact .cons hs (ih h2)

theorem ARun.split {fl : Flavor} {cap : Nat} {a c : A} {p q : List (Time × Atom)}
    (h : ARun fl cap a (p ++ q) c) : ∃ b, ARun fl cap a p b ∧ ARun fl cap b q c := by
  induction p generalizing a with
  | nil => exact ⟨a, .nil a, by simpa using h⟩
  | cons x p ih =>
    cases h with
    | cons hs hr =>
      obtain ⟨b, h1, h2⟩ := ih hr
      exact ⟨b, .cons hs h1, h2⟩

theorem ARun.single {fl : Flavor} {cap : Nat} {a b : A} {now : Time} {x : Atom}
    (h : AStep fl cap a now x b) : ARun fl cap a [(now, x)] b := .cons h (.nil b)

theorem ARun.nil_inv {fl : Flavor} {cap : Nat} {a b : A} (h : ARun fl cap a [] b) : b = a := by
  cases h; rfl

theorem ARun.cons_inv {fl : Flavor} {cap : Nat} {a b : A} {now : Time} {x : Atom} {tr : List (Time × Atom)}
    (h : ARun fl cap a ((now, x) :: tr) b) : ∃ a1, AStep fl cap a now x a1 ∧ ARun fl cap a1 tr b := by
  cases h with
  | cons h1 h2 => exact ⟨_, h1, h2⟩

theorem ARun.single_inv {fl : Flavor} {cap : Nat} {a b : A} {now : Time} {x : Atom}
    (h : ARun fl cap a [(now, x)] b) : AStep fl cap a now x b := by
  obtain ⟨a1, h1, h2⟩ := h.cons_inv
  cases h2.nil_inv
  exact h1

end Verif.Spec
