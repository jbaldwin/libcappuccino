import Verif.Spec.Concrete
import Verif.Spec.AStepLemmas
/-!
# Generic lifting: primitives refine ⇒ every public call and every history is a run of the reference semantics

`stepA_eq` / `runA_eq`: the instrumented step and run are the step and run.  A public call is an atom-level
run (`Core.stepA_crun`) whose atoms are all performed at the call's clock reading, and each atom is a step of
the reference semantics (`Refines.cstep`): hence `Refines.stepA`, and from it, by one induction (`Refines.runA_of`),
`Refines.runA` for histories with non-decreasing readings and `Refines.runA_anyclock` for invariants that ignore
the reading.  `run_keeps`: what every atom keeps holds after every history.

The shape of a history's atom list: which atoms a range call consists of (`mem_insertManyA`, `mem_findManyA`,
`mem_eraseManyA`), from an atom back to its call (`mem_runA`), and a lookup stands right behind the prologue of
its own call (`look_after_pre`).
-/
namespace Verif
open Verif.Spec

namespace Core
variable {σ : Type} (c : Core σ)

theorem insertManyA_eq (s : σ) (now : Time) (a : Allow) (xs : List (Key × Val × Nat)) :
    (c.insertManyA s now a xs).1 = (c.insertMany s now a xs).1 ∧
    (c.insertManyA s now a xs).2.1 = (c.insertMany s now a xs).2 := by
  induction xs generalizing s with
  | nil => exact ⟨rfl, rfl⟩
  | cons x xs ih =>
    obtain ⟨k, v, ttl⟩ := x
    have := ih (c.insert1 s now k v a ttl).1
    exact ⟨this.1, congrArg (_ + ·) this.2⟩

theorem findManyA_eq (s : σ) (now : Time) (peek : Bool) (ks : List Key) :
    (c.findManyA s now peek ks).1 = (c.findMany s now peek ks).1 ∧
    (c.findManyA s now peek ks).2.1 = (c.findMany s now peek ks).2 := by
  induction ks generalizing s with
  | nil => exact ⟨rfl, rfl⟩
  | cons k ks ih =>
    have := ih (c.find1 s now k peek).1
    exact ⟨this.1, congrArg (_ :: ·) this.2⟩

theorem eraseManyA_eq (s : σ) (ks : List Key) :
    (c.eraseManyA s ks).1 = (c.eraseMany s ks).1 ∧
    (c.eraseManyA s ks).2.1 = (c.eraseMany s ks).2 := by
  induction ks generalizing s with
  | nil => exact ⟨rfl, rfl⟩
  | cons k ks ih =>
    have := ih (c.erase1 s k).1
    exact ⟨this.1, congrArg (_ + ·) this.2⟩

theorem mem_insertManyA {s : σ} {now : Time} {a : Allow} {xs : List (Key × Val × Nat)} {y : Atom}
    (h : y ∈ (c.insertManyA s now a xs).2.2) : ∃ k v ttl d ok, (k, v, ttl) ∈ xs ∧ y = .ins k v a d ok := by
  induction xs generalizing s with
  | nil => cases h
  | cons x xs ih =>
    obtain ⟨k, v, ttl⟩ := x
    rcases List.mem_cons.mp h with rfl | h
    · exact ⟨k, v, ttl, _, _, List.mem_cons_self, rfl⟩
    · obtain ⟨k', v', ttl', d, ok, hm, rfl⟩ := ih h
      exact ⟨k', v', ttl', d, ok, List.mem_cons_of_mem _ hm, rfl⟩

theorem mem_findManyA {s : σ} {now : Time} {peek : Bool} {ks : List Key} {y : Atom}
    (h : y ∈ (c.findManyA s now peek ks).2.2) : ∃ k r, k ∈ ks ∧ y = .look k peek r := by
  induction ks generalizing s with
  | nil => cases h
  | cons k ks ih =>
    rcases List.mem_cons.mp h with rfl | h
    · exact ⟨k, _, List.mem_cons_self, rfl⟩
    · obtain ⟨k', r, hm, rfl⟩ := ih h
      exact ⟨k', r, List.mem_cons_of_mem _ hm, rfl⟩

theorem mem_eraseManyA {s : σ} {ks : List Key} {y : Atom}
    (h : y ∈ (c.eraseManyA s ks).2.2) : ∃ k ok, k ∈ ks ∧ y = .del k ok := by
  induction ks generalizing s with
  | nil => cases h
  | cons k ks ih =>
    rcases List.mem_cons.mp h with rfl | h
    · exact ⟨k, _, List.mem_cons_self, rfl⟩
    · obtain ⟨k', ok, hm, rfl⟩ := ih h
      exact ⟨k', ok, List.mem_cons_of_mem _ hm, rfl⟩

theorem stepA_eq (s : σ) (now : Time) (op : Op) :
    (c.stepA s now op).1 = (c.step s now op).1 ∧ (c.stepA s now op).2.1 = (c.step s now op).2 := by
  cases op with
  | insertRange xs a =>
    have h := c.insertManyA_eq (c.pre s now) now a xs
    exact ⟨h.1, congrArg Out.nat h.2⟩
  | findRange ks peek =>
    have h := c.findManyA_eq (c.pre s now) now peek ks
    exact ⟨h.1, congrArg Out.opts h.2⟩
  | eraseRange ks =>
    have h := c.eraseManyA_eq (c.pre s now) ks
    exact ⟨h.1, congrArg Out.nat h.2⟩
  | clear =>
    rw [stepA_clear]
    by_cases hc : c.hasClear = true
    · rw [if_pos hc]; exact ⟨(if_pos hc).symm, rfl⟩
    · rw [if_neg hc]; exact ⟨(if_neg hc).symm, rfl⟩
  | _ => exact ⟨rfl, rfl⟩

theorem runA_eq (s : σ) (ops : List (Time × Op)) :
    (c.runA s ops).1 = (c.run s ops).1 ∧ (c.runA s ops).2.1 = (c.run s ops).2 := by
  induction ops generalizing s with
  | nil => exact ⟨rfl, rfl⟩
  | cons x rest ih =>
    obtain ⟨t, op⟩ := x
    simp only [runA_cons, run]
    have h := c.stepA_eq s t op
    rw [h.1, h.2]
    have h2 := ih (c.step s t op).1
    exact ⟨h2.1, by rw [h2.2]⟩

/-- from an atom of a history back to the call that performed it, at that call's clock reading -/
theorem mem_runA {t : Time} {x : Atom} {ops : List (Time × Op)} {s : σ}
    (h : (t, x) ∈ (c.runA s ops).2.2) : ∃ s' op, (t, op) ∈ ops ∧ x ∈ (c.stepA s' t op).2.2 := by
  induction ops generalizing s with
  | nil => cases h
  | cons y ops ih =>
    rcases List.mem_append.1 h with h | h
    · obtain ⟨b, hb, hx⟩ := List.mem_map.1 h
      cases hx
      exact ⟨s, y.2, List.mem_cons_self, hb⟩
    · obtain ⟨s', op, hm, hx⟩ := ih h
      exact ⟨s', op, List.mem_cons_of_mem _ hm, hx⟩

/-- a call that looks a key up does nothing else: its atoms are the prologue, then lookups only -/
theorem look_in_stepA (s : σ) (t : Time) (op : Op) {k : Key} {pk : Bool} {r : Option (Val × Nat)}
    (hm : Atom.look k pk r ∈ (c.stepA s t op).2.2) :
    ∃ ls, (c.stepA s t op).2.2 = .pre :: ls ∧ ∀ y ∈ ls, ∃ k' pk' r', y = Atom.look k' pk' r' := by
  cases op with
  | insertRange xs a =>
    rcases List.mem_cons.mp hm with h | h
    · cases h
    · obtain ⟨_, _, _, _, _, _, h⟩ := c.mem_insertManyA h
      cases h
  | eraseRange ks =>
    rcases List.mem_cons.mp hm with h | h
    · cases h
    · obtain ⟨_, _, _, h⟩ := c.mem_eraseManyA h
      cases h
  | find k' peek | findCount k' peek =>
    exact ⟨[_], rfl, fun y hy => ⟨_, _, _, List.mem_singleton.mp hy⟩⟩
  | findRange ks peek =>
    exact ⟨_, rfl, fun y hy => (c.mem_findManyA hy).elim fun k' h => h.elim fun r' h => ⟨k', peek, r', h.2⟩⟩
  | clear =>
    rw [stepA_clear] at hm
    split at hm <;> simp at hm
  | insert | erase =>
    rcases List.mem_cons.mp hm with h | h
    · cases h
    · cases List.mem_singleton.mp h
  | _ => cases List.mem_singleton.mp hm

/-- Every lookup of a history stands behind the prologue of its own call, at the same clock reading, with only
lookups in between.  So what an eager container's lookup finds has just survived the reaping prologue (`Core.C04_eager`). -/
theorem look_after_pre {ops : List (Time × Op)} {s : σ} {p q : List (Time × Atom)} {now : Time}
    {k : Key} {pk : Bool} {r : Option (Val × Nat)} (h : (c.runA s ops).2.2 = p ++ (now, .look k pk r) :: q) :
    ∃ p0 ls, p = p0 ++ (now, .pre) :: ls ∧ ∀ y ∈ ls, ∃ k' pk' r', y.2 = Atom.look k' pk' r' := by
  induction ops generalizing s p with
  | nil => exact absurd h.symm (List.append_ne_nil_of_right_ne_nil p (List.cons_ne_nil _ _))
  | cons x rest ih =>
    obtain ⟨t, op⟩ := x
    simp only [runA_cons] at h
    rcases List.append_eq_append_iff.mp h with ⟨a', hp, hrest⟩ | ⟨c', hblock, hq⟩
    · -- the lookup is in a later call
      obtain ⟨p0, ls, e, hl⟩ := ih hrest
      exact ⟨_ ++ p0, ls, by rw [hp, e, List.append_assoc], hl⟩
    · cases c' with
      | nil =>
        -- the lookup is the first atom of the next call: no call starts with a lookup
        obtain ⟨p0, ls, e, -⟩ := ih (p := []) hq.symm
        exact absurd (congrArg List.length e) (by simp)
      | cons y c'' =>
        simp only [List.cons_append, List.cons.injEq] at hq
        obtain ⟨rfl, -⟩ := hq
        have hx : (now, Atom.look k pk r) ∈ (c.stepA s t op).2.2.map (fun a => (t, a)) := by
          rw [hblock]; simp
        obtain ⟨a, ha, he⟩ := List.mem_map.mp hx
        cases he
        obtain ⟨ls, e, hl⟩ := c.look_in_stepA s now op ha
        rw [e, List.map_cons] at hblock
        cases p with
        | nil => cases hblock
        | cons y0 p' =>
          simp only [List.cons_append, List.cons.injEq] at hblock
          refine ⟨[], p', by rw [← hblock.1]; rfl, fun y hy => ?_⟩
          have : y ∈ ls.map (fun a => (now, a)) := by rw [hblock.2]; exact List.mem_append_left _ hy
          obtain ⟨a', ha', rfl⟩ := List.mem_map.mp this
          exact hl a' ha'

theorem run_keeps {P : σ → Prop} (hstep : ∀ s now x s', P s → CStep c s now x s' → P s')
    (s : σ) (ops : List (Time × Op)) (h : P s) : P (c.run s ops).1 := by
  obtain ⟨tr, hr, _⟩ := c.runA_crun s ops
  rw [← (c.runA_eq s ops).1]
  exact hr.keeps hstep h

end Core

section lift
variable {σ : Type} {c : Core σ} {fl : Flavor} {cap : Nat} {Inv : Time → σ → Prop} {abs : σ → A}

theorem Refines.crun_at (R : Refines c fl cap Inv abs) {now : Time} {s s' : σ} {tr : STrace σ}
    (hr : CRun c s tr s') (ht : ∀ x ∈ tr, x.2.1 = now) (h : Inv now s) :
    Inv now s' ∧ ARun fl cap (abs s) tr.atoms (abs s') := by
  induction hr with
  | nil => exact ⟨h, .nil _⟩
  | cons hs _ ih =>
    obtain rfl := ht _ List.mem_cons_self
    obtain ⟨h1, h2⟩ := R.cstep h hs
    obtain ⟨h3, h4⟩ := ih (fun x hx => ht x (List.mem_cons_of_mem _ hx)) h1
    exact ⟨h3, .cons h2 h4⟩

theorem Refines.stepA (R : Refines c fl cap Inv abs) (s : σ) (now : Time) (op : Op) (h : Inv now s) :
    Inv now (c.stepA s now op).1 ∧
    ARun fl cap (abs s) ((c.stepA s now op).2.2.map (fun x => (now, x))) (abs (c.stepA s now op).1) := by
  obtain ⟨tr, hr, he⟩ := c.stepA_crun s now op
  rw [← he]
  refine R.crun_at hr (fun x hx => ?_) h
  have : x.2 ∈ tr.atoms := List.mem_map_of_mem (f := (·.2)) hx
  rw [he] at this
  obtain ⟨_, _, hy⟩ := List.mem_map.mp this
  rw [← hy]

/-- The induction behind `runA` and `runA_anyclock`.  `ok t ops` is what is assumed of the readings of `ops`
after the reading `t`; it has to carry the invariant from each reading to the next. -/
theorem Refines.runA_of (R : Refines c fl cap Inv abs) {ok : Time → List (Time × Op) → Prop}
    (hok : ∀ t t1 op rest, ok t ((t1, op) :: rest) → (∀ s, Inv t s → Inv t1 s) ∧ ok t1 rest)
    (s : σ) (t : Time) (ops : List (Time × Op)) (h : Inv t s) (ht : ok t ops) :
    (∃ t', Inv t' (c.runA s ops).1) ∧ ARun fl cap (abs s) (c.runA s ops).2.2 (abs (c.runA s ops).1) := by
  induction ops generalizing s t with
  | nil => exact ⟨⟨t, h⟩, .nil _⟩
  | cons x rest ih =>
    obtain ⟨t1, op⟩ := x
    obtain ⟨hc, ht'⟩ := hok t t1 op rest ht
    have h1 := R.stepA s t1 op (hc s h)
    have h2 := ih (c.stepA s t1 op).1 t1 h1.1 ht'
    simp only [Core.runA_cons]
    exact ⟨h2.1, h1.2.append h2.2⟩

/-- `∃ t'`: the invariant holds at the last clock reading of `ops` (at `t` if there is none) -/
theorem Refines.runA (R : Refines c fl cap Inv abs) (s : σ) (t : Time) (ops : List (Time × Op))
    (h : Inv t s) (ht : TimesFrom t ops) :
    (∃ t', Inv t' (c.runA s ops).1) ∧ ARun fl cap (abs s) (c.runA s ops).2.2 (abs (c.runA s ops).1) :=
  R.runA_of (ok := TimesFrom) (fun _ _ _ _ ht => ⟨fun s h => R.mono s _ _ h ht.1, ht.2⟩) s t ops h ht

theorem Refines.runA_anyclock (R : Refines c fl cap Inv abs) (htl : ∀ s t t', Inv t s → Inv t' s)
    (s : σ) (t : Time) (ops : List (Time × Op)) (h : Inv t s) :
    (∃ t', Inv t' (c.runA s ops).1) ∧ ARun fl cap (abs s) (c.runA s ops).2.2 (abs (c.runA s ops).1) :=
  R.runA_of (ok := fun _ _ => True) (fun _ _ _ _ _ => ⟨fun s h => htl s _ _ h, trivial⟩) s t ops h trivial

end lift
end Verif
