import Verif.Spec.Atoms
/-!
# Atom-level runs of a container model (concrete states), and their link to the reference semantics

`CStep c s now x s'`: the model `c` performs the single atom `x` at clock reading `now`, going from
`s` to `s'`.  `CRun` chains them.  `runA_crun`: the atom trace `Core.runA` attaches to a history is
such a run — this is what lets a per-primitive invariant be lifted to every point of every history,
with the concrete states in hand (`CRun.invariant`).  `Refines.cstep`: each `CStep` is an `AStep` on the
abstraction.
-/
namespace Verif
open Verif.Spec

inductive CStep {σ : Type} (c : Core σ) : σ → Time → Atom → σ → Prop
  | pre (s : σ) (now : Time) : CStep c s now .pre (c.pre s now)
  | ins (s : σ) (now : Time) (k : Key) (v : Val) (a : Allow) (ttl : Nat) :
      CStep c s now (.ins k v a (c.dlOf s now ttl) (c.insert1 s now k v a ttl).2) (c.insert1 s now k v a ttl).1
  | look (s : σ) (now : Time) (k : Key) (peek : Bool) :
      CStep c s now (.look k peek (c.find1 s now k peek).2) (c.find1 s now k peek).1
  | del (s : σ) (now : Time) (k : Key) : CStep c s now (.del k (c.erase1 s k).2) (c.erase1 s k).1
  | clear (s : σ) (now : Time) (h : c.hasClear = true) : CStep c s now .clear (c.clear s)
  | reap (s : σ) (now : Time) : CStep c s now (.reap (c.clean s now).2) (c.clean s now).1
  | age (s : σ) (now : Time) : CStep c s now (.age (c.age s now).2) (c.age s now).1
  | setTtl (s : σ) (now : Time) (t : Nat) : CStep c s now (.setTtl t) (c.updateTtl s t)
  | obsSize (s : σ) (now : Time) : CStep c s now (.obsSize (c.size s)) s
  | obsEmpty (s : σ) (now : Time) : CStep c s now (.obsEmpty (c.size s == 0)) s
  | obsCap (s : σ) (now : Time) : CStep c s now (.obsCap (c.capacity s)) s

namespace CStep
variable {σ : Type} {c : Core σ} {s s' : σ} {now : Time}

theorem ins_inv {k : Key} {v : Val} {al : Allow} {d : Time} {ok : Bool}
    (h : CStep c s now (.ins k v al d ok) s') :
    ∃ ttl, d = c.dlOf s now ttl ∧ ok = (c.insert1 s now k v al ttl).2 ∧
      s' = (c.insert1 s now k v al ttl).1 := by
  cases h with
  | ins _ _ _ ttl => exact ⟨ttl, rfl, rfl, rfl⟩

theorem look_inv {k : Key} {pk : Bool} {r : Option (Val × Nat)} (h : CStep c s now (.look k pk r) s') :
    r = (c.find1 s now k pk).2 ∧ s' = (c.find1 s now k pk).1 := by
  cases h with
  | look => exact ⟨rfl, rfl⟩

theorem age_inv {n : Nat} (h : CStep c s now (.age n) s') :
    n = (c.age s now).2 ∧ s' = (c.age s now).1 := by
  cases h with
  | age => exact ⟨rfl, rfl⟩

end CStep

/-- a trace annotated with the model state each atom started from -/
abbrev STrace (σ : Type) := List (σ × Time × Atom)

def STrace.atoms {σ : Type} (tr : STrace σ) : List (Time × Atom) := tr.map (·.2)

theorem STrace.atoms_nil {σ : Type} : STrace.atoms ([] : STrace σ) = [] := rfl
theorem STrace.atoms_cons {σ : Type} (x : σ × Time × Atom) (tr : STrace σ) :
    STrace.atoms (x :: tr) = x.2 :: STrace.atoms tr := rfl
theorem STrace.atoms_append {σ : Type} (p q : STrace σ) :
    STrace.atoms (p ++ q) = STrace.atoms p ++ STrace.atoms q := by simp [STrace.atoms]

inductive CRun {σ : Type} (c : Core σ) : σ → STrace σ → σ → Prop
  | nil (s : σ) : CRun c s [] s
  | cons {s s1 s2 : σ} {now : Time} {x : Atom} {tr : STrace σ} :
      CStep c s now x s1 → CRun c s1 tr s2 → CRun c s ((s, now, x) :: tr) s2

namespace CRun
variable {σ : Type} {c : Core σ}

theorem append {s1 s2 s3 : σ} {p q : STrace σ} (h1 : CRun c s1 p s2) (h2 : CRun c s2 q s3) :
    CRun c s1 (p ++ q) s3 := by
  induction h1 with
  | nil => simpa using h2
  | cons hs _ ih => exact .cons hs (ih h2)

theorem split {s1 s3 : σ} {p q : STrace σ} (h : CRun c s1 (p ++ q) s3) :
    ∃ s2, CRun c s1 p s2 ∧ CRun c s2 q s3 := by
  induction p generalizing s1 with
  | nil => exact ⟨s1, .nil s1, by simpa using h⟩
  | cons x p ih =>
    cases h with
    | cons hs hr =>
      obtain ⟨s2, h1, h2⟩ := ih hr
      exact ⟨s2, .cons hs h1, h2⟩

theorem single {s s' : σ} {now : Time} {x : Atom} (h : CStep c s now x s') : CRun c s [(s, now, x)] s' :=
  .cons h (.nil s')

theorem step_at {s0 s3 : σ} {p q : STrace σ} {s : σ} {now : Time} {x : Atom}
    (h : CRun c s0 (p ++ (s, now, x) :: q) s3) :
    CRun c s0 p s ∧ ∃ s', CStep c s now x s' ∧ CRun c s' q s3 := by
  obtain ⟨s2, h1, h2⟩ := h.split
  cases h2 with
  | cons hs hr => exact ⟨h1, _, hs, hr⟩

/-- Induction along a run, on which every fact about runs rests; `P` may speak of the annotated trace so far.
`pre` is the trace already behind `s0` (a prefix: not the atom `.pre`, not the field `Core.pre`). -/
theorem invariant {P : STrace σ → σ → Prop} {s0 s : σ} {pre tr : STrace σ}
    (hstep : ∀ p s now x s', P p s → CStep c s now x s' → P (p ++ [(s, now, x)]) s')
    (h0 : P pre s0) (hr : CRun c s0 tr s) : P (pre ++ tr) s := by
  induction hr generalizing pre with
  | nil => simpa using h0
  | cons hs _ ih =>
    have := ih (hstep _ _ _ _ _ h0 hs)
    simpa [List.append_assoc] using this

theorem fold_invariant {γ : Type} {f : γ → σ × Time × Atom → γ}
    {P : γ → σ → Prop} {s0 s : σ} {tr : STrace σ} {g0 : γ}
    (hstep : ∀ g s now x s', P g s → CStep c s now x s' → P (f g (s, now, x)) s')
    (h0 : P g0 s0) (hr : CRun c s0 tr s) : P (tr.foldl f g0) s := by
  have := invariant (P := fun p s => P (p.foldl f g0) s) (pre := [])
    (fun p s now x s' h hs => by
      rw [List.foldl_append, List.foldl_cons, List.foldl_nil]
      exact hstep _ s now x s' h hs) h0 hr
  rwa [List.nil_append] at this

theorem keeps {P : σ → Prop} (hstep : ∀ s now x s', P s → CStep c s now x s' → P s')
    {s s' : σ} {tr : STrace σ} (hr : CRun c s tr s') (h : P s) : P s' :=
  invariant (P := fun _ s => P s) (pre := []) (fun _ s now x s' => hstep s now x s') h hr

end CRun

namespace Core
variable {σ : Type} (c : Core σ)

theorem insertManyA_crun (s : σ) (now : Time) (a : Allow) (xs : List (Key × Val × Nat)) :
    ∃ tr, CRun c s tr (c.insertManyA s now a xs).1 ∧
      tr.atoms = (c.insertManyA s now a xs).2.2.map (fun x => (now, x)) := by
  induction xs generalizing s with
  | nil => exact ⟨[], .nil _, rfl⟩
  | cons x xs ih =>
    obtain ⟨k, v, ttl⟩ := x
    obtain ⟨tr, h1, h2⟩ := ih (c.insert1 s now k v a ttl).1
    exact ⟨(s, now, _) :: tr, .cons (.ins s now k v a ttl) h1, congrArg (List.cons _) h2⟩

theorem findManyA_crun (s : σ) (now : Time) (peek : Bool) (ks : List Key) :
    ∃ tr, CRun c s tr (c.findManyA s now peek ks).1 ∧
      tr.atoms = (c.findManyA s now peek ks).2.2.map (fun x => (now, x)) := by
  induction ks generalizing s with
  | nil => exact ⟨[], .nil _, rfl⟩
  | cons k ks ih =>
    obtain ⟨tr, h1, h2⟩ := ih (c.find1 s now k peek).1
    exact ⟨(s, now, _) :: tr, .cons (.look s now k peek) h1, congrArg (List.cons _) h2⟩

theorem eraseManyA_crun (s : σ) (now : Time) (ks : List Key) :
    ∃ tr, CRun c s tr (c.eraseManyA s ks).1 ∧
      tr.atoms = (c.eraseManyA s ks).2.2.map (fun x => (now, x)) := by
  induction ks generalizing s with
  | nil => exact ⟨[], .nil _, rfl⟩
  | cons k ks ih =>
    obtain ⟨tr, h1, h2⟩ := ih (c.erase1 s k).1
    exact ⟨(s, now, _) :: tr, .cons (.del s now k) h1, congrArg (List.cons _) h2⟩

theorem stepA_clear (s : σ) (now : Time) :
    c.stepA s now .clear = if c.hasClear = true then (c.clear s, Out.unit, [Atom.clear]) else (s, Out.unit, []) := rfl

theorem stepA_crun (s : σ) (now : Time) (op : Op) :
    ∃ tr, CRun c s tr (c.stepA s now op).1 ∧ tr.atoms = (c.stepA s now op).2.2.map (fun x => (now, x)) := by
  cases op with
  | insert k v a ttl =>
    exact ⟨_, .cons (.pre s now) (.single (.ins _ now k v a ttl)), rfl⟩
  | insertRange xs a =>
    obtain ⟨tr, h1, h2⟩ := c.insertManyA_crun (c.pre s now) now a xs
    exact ⟨_, .cons (.pre s now) h1, congrArg (List.cons (now, Atom.pre)) h2⟩
  | find k peek => exact ⟨_, .cons (.pre s now) (.single (.look _ now k peek)), rfl⟩
  | findRange ks peek =>
    obtain ⟨tr, h1, h2⟩ := c.findManyA_crun (c.pre s now) now peek ks
    exact ⟨_, .cons (.pre s now) h1, congrArg (List.cons (now, Atom.pre)) h2⟩
  | findCount k peek => exact ⟨_, .cons (.pre s now) (.single (.look _ now k peek)), rfl⟩
  | erase k => exact ⟨_, .cons (.pre s now) (.single (.del _ now k)), rfl⟩
  | eraseRange ks =>
    obtain ⟨tr, h1, h2⟩ := c.eraseManyA_crun (c.pre s now) now ks
    exact ⟨_, .cons (.pre s now) h1, congrArg (List.cons (now, Atom.pre)) h2⟩
  | clear =>
    rw [stepA_clear]
    by_cases hc : c.hasClear = true
    · rw [if_pos hc]; exact ⟨_, .single (.clear s now hc), rfl⟩
    · rw [if_neg hc]; exact ⟨[], .nil _, rfl⟩
  | clean => exact ⟨_, .single (.reap s now), rfl⟩
  | age => exact ⟨_, .single (.age s now), rfl⟩
  | updateTtl t => exact ⟨_, .single (.setTtl s now t), rfl⟩
  | size => exact ⟨_, .single (.obsSize s now), rfl⟩
  | empty => exact ⟨_, .single (.obsEmpty s now), rfl⟩
  | capacity => exact ⟨_, .single (.obsCap s now), rfl⟩

theorem runA_cons (s : σ) (t : Time) (op : Op) (rest : List (Time × Op)) :
    c.runA s ((t, op) :: rest) =
      ((c.runA (c.stepA s t op).1 rest).1, (c.stepA s t op).2.1 :: (c.runA (c.stepA s t op).1 rest).2.1,
        (c.stepA s t op).2.2.map (fun a => (t, a)) ++ (c.runA (c.stepA s t op).1 rest).2.2) := rfl

theorem runA_crun (s : σ) (ops : List (Time × Op)) :
    ∃ tr, CRun c s tr (c.runA s ops).1 ∧ tr.atoms = (c.runA s ops).2.2 := by
  induction ops generalizing s with
  | nil => exact ⟨[], .nil _, rfl⟩
  | cons x rest ih =>
    obtain ⟨t, op⟩ := x
    obtain ⟨tr1, h1, e1⟩ := c.stepA_crun s t op
    obtain ⟨tr2, h2, e2⟩ := ih (c.stepA s t op).1
    exact ⟨tr1 ++ tr2, h1.append h2, by rw [runA_cons, STrace.atoms_append, e1, e2]⟩

/-- The atoms of a history as an annotated trace: each atom with the state the model performed it in, reached by
the run over the atoms before it.  Nothing is assumed of the clock readings. -/
theorem history_steps (s0 : σ) (ops : List (Time × Op)) :
    ∃ tr : STrace σ, tr.atoms = (c.runA s0 ops).2.2 ∧
      ∀ p q s now x, tr = p ++ (s, now, x) :: q → CRun c s0 p s ∧ ∃ s', CStep c s now x s' := by
  obtain ⟨tr, hrun, hat⟩ := c.runA_crun s0 ops
  refine ⟨tr, hat, fun p q s now x heq => ?_⟩
  obtain ⟨hp, s', hs, -⟩ := (heq ▸ hrun).step_at
  exact ⟨hp, s', hs⟩

theorem runA_timesFrom (s : σ) (ops : List (Time × Op)) (t0 : Time) (ht : TimesFrom t0 ops) :
    ∀ x ∈ (c.runA s ops).2.2, t0 ≤ x.1 := by
  induction ops generalizing s t0 with
  | nil => intro x hx; cases hx
  | cons y rest ih =>
    obtain ⟨t, op⟩ := y
    simp only [TimesFrom] at ht
    intro x hx
    simp only [runA_cons, List.mem_append, List.mem_map] at hx
    rcases hx with ⟨a, _, rfl⟩ | hx
    · exact ht.1
    · exact Nat.le_trans ht.1 (ih _ t ht.2 x hx)

theorem runA_pairwise (s : σ) (ops : List (Time × Op)) (t0 : Time) (ht : TimesFrom t0 ops) :
    (c.runA s ops).2.2.Pairwise (fun x y => x.1 ≤ y.1) := by
  induction ops generalizing s t0 with
  | nil => exact List.Pairwise.nil
  | cons x rest ih =>
    obtain ⟨t, op⟩ := x
    simp only [TimesFrom] at ht
    simp only [runA_cons]
    rw [List.pairwise_append]
    refine ⟨?_, ih _ t ht.2, ?_⟩
    · rw [List.pairwise_map]
      exact List.pairwise_of_forall_mem_list (fun _ _ _ _ => Nat.le_refl _)
    · intro a ha b hb
      simp only [List.mem_map] at ha
      obtain ⟨_, _, rfl⟩ := ha
      exact c.runA_timesFrom _ rest t ht.2 b hb

end Core

section
variable {σ : Type} {c : Core σ} {fl : Flavor} {cap : Nat} {Inv : Time → σ → Prop} {abs : σ → A}

theorem Refines.cstep (R : Refines c fl cap Inv abs) {s s' : σ} {now : Time} {x : Atom}
    (h : Inv now s) (hs : CStep c s now x s') : Inv now s' ∧ AStep fl cap (abs s) now x (abs s') := by
  cases hs with
  | pre => exact R.pre s now h
  | ins k v a ttl => exact R.insert1 s now k v a ttl h
  | look k peek => exact R.find1 s now k peek h
  | del k => exact R.erase1 s now k h
  | clear hc => exact R.clear s now hc h
  | reap => exact R.clean s now h
  -- `AStep` of `.age _` and of `.setTtl _` unfolds to `abs s' = abs s`, the form `R.age` and `R.updateTtl` have
  | age => exact R.age s now h
  | setTtl t => exact R.updateTtl s now t h
  | obsSize => exact ⟨h, R.size s now h, rfl⟩
  | obsEmpty => exact ⟨h, congrArg (· == 0) (R.size s now h), rfl⟩
  | obsCap => exact ⟨h, R.capacity s now h, rfl⟩

/-- An invariant that ignores the clock reading holds along every atom-level run. -/
theorem Refines.crun_inv {I : σ → Prop} (R : Refines c fl cap (fun _ => I) abs) {s s' : σ} {tr : STrace σ}
    (hr : CRun c s tr s') (h : I s) : I s' :=
  hr.keeps (fun _ now _ _ h hs => (R.cstep (now := now) h hs).1) h

/-- `CRun.fold_invariant` with such an invariant carried along: the step for the ghost may assume it. -/
theorem Refines.fold_invariant {I : σ → Prop} (R : Refines c fl cap (fun _ => I) abs) {γ : Type}
    {f : γ → σ × Time × Atom → γ} {P : γ → σ → Prop} {s0 s : σ} {tr : STrace σ} {g0 : γ}
    (hstep : ∀ g s now x s', I s → P g s → CStep c s now x s' → P (f g (s, now, x)) s')
    (hi : I s0) (h0 : P g0 s0) (hr : CRun c s0 tr s) : I s ∧ P (tr.foldl f g0) s :=
  CRun.fold_invariant (P := fun g s => I s ∧ P g s)
    (fun g s now x s' h hs => ⟨(R.cstep (now := now) h.1 hs).1, hstep g s now x s' h.1 h.2 hs⟩) ⟨hi, h0⟩ hr

end
end Verif
