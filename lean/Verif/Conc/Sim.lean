import Verif.Conc.Basic
/-! The forward simulation: one step of the locked object (`IStep` of `Basic.lean`: threads, one mutex, the
object's data) is matched by zero or one steps of the atomic object (`SStep`) with the same label, and `Sim` is
kept (`sim_step`). -/
namespace Conc
variable {σ Op Out : Type} {step : σ → Op → σ × Out}

/-- The steps away from the lock (`inv`, `res`): `t`, not the holder, takes a phase `p` that is not a holder's. -/
theorem Sim.move_outside {i : IState σ Op Out} {s : SState σ Op Out} (h : Sim i s) (t : Tid)
    (p : IPhase Op Out) (hnl : i.lock ≠ some t)
    (hp : ¬ ((∃ op, p = .inside op) ∨ (∃ o, p = .finished o))) :
    Sim { i with ph := fun u => if u = t then p else i.ph u }
      { s with ph := fun u => if u = t then absPh p else s.ph u } := by
  refine ⟨fun u => ?_, fun u => ?_, ?_⟩
  · by_cases hu : u = t
    · simp only [if_pos hu]
    · simp only [if_neg hu]; exact h.ph u
  · by_cases hu : u = t
    · subst hu; simp only [if_true]; exact ⟨fun hl => (hnl hl).elim, fun hq => (hp hq).elim⟩
    · simp only [if_neg hu]; exact h.holder u
  · refine h.obj.trans ?_
    cases hl : i.lock with
    | none => rfl
    | some u =>
      have hne : u ≠ t := fun e => hnl (e ▸ hl)
      simp only [if_neg hne]

theorem sim_step {i i' : IState σ Op Out} {s : SState σ Op Out} {e : Option (Ev Op Out)}
    (h : Sim i s) (hs : IStep step i e i') : ∃ s', SStepOpt step s e s' ∧ Sim i' s' := by
  have nl : ∀ t, ¬ ((∃ op, i.ph t = .inside op) ∨ (∃ o, i.ph t = .finished o)) → i.lock ≠ some t :=
    fun t hn hl => hn ((h.holder t).1 hl)
  cases hs with
  -- inv: the spec's `inv`; `t` goes idle → waiting without the lock
  | inv t op hi =>
    exact ⟨_, .one (.inv s t op (by rw [h.ph t, hi]; rfl)),
      h.move_outside t (.waiting op) (nl t (by simp [hi])) (by simp)⟩
  -- acquire: stutter; the object value stays `shared`, now read from `saved := shared`
  | acquire t op hi hl =>
    refine ⟨s, .stutter s, ⟨fun u => ?_, fun u => ?_, ?_⟩⟩
    · by_cases hu : u = t
      · simp only [hu, ↓reduceIte, h.ph t, hi, absPh]
      · simp only [if_neg hu, h.ph u]
    · by_cases hu : u = t
      · subst hu
        exact iff_of_true rfl (.inl ⟨op, if_pos rfl⟩)
      · simp only [if_neg hu]
        exact iff_of_false (fun e => hu (Option.some.inj e).symm)
          fun hq => nomatch hl.symm.trans ((h.holder u).2 hq)
    · have ho := h.obj
      rw [hl] at ho
      simp only [↓reduceIte]
      exact ho
  -- scribble: stutter; while the holder is inside the object value is `saved`, which the write leaves alone
  | scribble t op x hi hl =>
    refine ⟨s, .stutter s, ⟨h.ph, h.holder, ?_⟩⟩
    have ho := h.obj
    simp only [hl, hi] at ho ⊢
    exact ho
  -- finish: the spec's `perform`, on the object value `saved`; the holder, now finished, exposes `shared` again
  | finish t op hi hl =>
    have hobj : s.obj = i.saved := by have ho := h.obj; simp only [hl, hi] at ho; exact ho
    refine ⟨_, .one (.perform s t op (by rw [h.ph t, hi]; rfl)), ⟨fun u => ?_, fun u => ?_, ?_⟩⟩
    · by_cases hu : u = t
      · simp only [hu, ↓reduceIte, hobj, absPh]
      · simp only [if_neg hu, h.ph u]
    · by_cases hu : u = t
      · subst hu
        exact iff_of_true hl (.inr ⟨_, if_pos rfl⟩)
      · simp only [if_neg hu]
        exact h.holder u
    · simp only [hl, ↓reduceIte, hobj]
  -- release: stutter; finished and released both stand for `performed`, the object value stays `shared`
  | release t out hi hl =>
    refine ⟨s, .stutter s, ⟨fun u => ?_, fun u => ?_, ?_⟩⟩
    · by_cases hu : u = t
      · simp only [hu, ↓reduceIte, h.ph t, hi, absPh]
      · simp only [if_neg hu, h.ph u]
    · by_cases hu : u = t
      · subst hu
        simp
      · simp only [if_neg hu]
        exact iff_of_false nofun fun hq =>
          hu (Option.some.inj (hl.symm.trans ((h.holder u).2 hq))).symm
    · have ho := h.obj
      simp only [hl, hi] at ho
      exact ho
  -- res: the spec's `res`; `t` goes released → idle without the lock
  | res t out hi =>
    exact ⟨_, .one (.res s t out (by rw [h.ph t, hi]; rfl)),
      h.move_outside t .idle (nl t (by simp [hi])) (by simp)⟩
end Conc
