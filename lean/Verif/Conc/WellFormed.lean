import Verif.Conc.Exec
/-! Histories of both machines are well-formed (every thread's subhistory alternates
invocation / response, starting with an invocation): the standing assumption under which
Herlihy–Wing linearizability is stated. -/
namespace Conc
variable {σ Op Out : Type}

/-- the first argument: the threads that have an open invocation -/
def WFFrom : (Tid → Bool) → List (Ev Op Out) → Prop
  | _, [] => True
  | p, .inv t _ :: r => p t = false ∧ WFFrom (fun u => if u = t then true else p u) r
  | p, .res t _ :: r => p t = true ∧ WFFrom (fun u => if u = t then false else p u) r

def busyAfter : (Tid → Bool) → List (Ev Op Out) → Tid → Bool
  | p, [] => p
  | p, .inv t _ :: r => busyAfter (fun u => if u = t then true else p u) r
  | p, .res t _ :: r => busyAfter (fun u => if u = t then false else p u) r

def WellFormed (h : List (Ev Op Out)) : Prop := WFFrom (fun _ => false) h

theorem wfFrom_append {p : Tid → Bool} {a b : List (Ev Op Out)} :
    WFFrom p (a ++ b) ↔ WFFrom p a ∧ WFFrom (busyAfter p a) b := by
  induction a generalizing p with
  | nil => exact ⟨fun h => ⟨trivial, h⟩, And.right⟩
  | cons e r ih =>
    cases e with
    | inv t op | res t out =>
      show _ ∧ WFFrom _ (r ++ b) ↔ (_ ∧ WFFrom _ r) ∧ WFFrom (busyAfter _ r) b
      rw [ih, and_assoc]

theorem busyAfter_append (p : Tid → Bool) (a b : List (Ev Op Out)) :
    busyAfter p (a ++ b) = busyAfter (busyAfter p a) b := by
  induction a generalizing p with
  | nil => rfl
  | cons e r ih =>
    cases e with
    | inv t op | res t out => exact ih _

theorem spec_exec_wf {step : σ → Op → σ × Out} {s0 : σ} {h : List (Ev Op Out)}
    {s : SState σ Op Out} (hx : Exec (SStep step) (sInit s0) h s) :
    WellFormed h ∧ ∀ t, busyAfter (fun _ => false) h t = false ↔ s.ph t = .idle := by
  induction hx with
  | refl => exact ⟨trivial, fun _ => ⟨fun _ => rfl, fun _ => rfl⟩⟩
  | @snoc h' _ _ _ _ hs ih =>
    obtain ⟨hwf, hb⟩ := ih
    cases hs with
    | inv t op hi =>
      refine ⟨wfFrom_append.mpr ⟨hwf, (hb t).mpr hi, trivial⟩, fun u => ?_⟩
      show busyAfter _ (_ ++ [Ev.inv t op]) u = false ↔ _
      rw [busyAfter_append]
      show (if u = t then true else busyAfter _ h' u) = false ↔ _
      by_cases hu : u = t <;> simp [hu, hb]
    | perform t op hp =>
      rw [Option.toList_none, List.append_nil]
      refine ⟨hwf, fun u => ?_⟩
      by_cases hu : u = t
      · subst hu; simp [hb, hp]
      · simp [hu, hb]
    | res t out hp =>
      have hbusy : busyAfter (fun _ => false) h' t = true := by
        cases hbt : busyAfter (fun _ => false) h' t with
        | true => rfl
        | false => rw [(hb t).mp hbt] at hp; cases hp
      refine ⟨wfFrom_append.mpr ⟨hwf, hbusy, trivial⟩, fun u => ?_⟩
      show busyAfter _ (_ ++ [Ev.res t out]) u = false ↔ _
      rw [busyAfter_append]
      show (if u = t then false else busyAfter _ h' u) = false ↔ _
      by_cases hu : u = t <;> simp [hu, hb]

theorem spec_wellFormed {step : σ → Op → σ × Out} {s0 : σ} {h : List (Ev Op Out)}
    (hs : SpecHistory step s0 h) : WellFormed h := by
  obtain ⟨s, hx⟩ := hs
  exact (spec_exec_wf hx).1

theorem impl_wellFormed {step : σ → Op → σ × Out} {s0 : σ} {h : List (Ev Op Out)}
    (hi : ImplHistory step s0 h) : WellFormed h :=
  spec_wellFormed (impl_refines_spec hi)

end Conc
