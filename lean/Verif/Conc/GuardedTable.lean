import Verif.Conc.Guarded
import Verif.Conc.Atomic
import Verif.Generated.LockShape
import Verif.Conc.WrapperTable
/-!
# C07 at the generated table: every public method is `guarded`, hence no data race

`guarded` is weaker than `wellLocked` (several critical sections, locks taken inside loops are fine as
long as every access to mutable state is inside one), so a change that only splits a critical section
breaks C06's obligation (`Table.lean`) and not this one.  The table is `Generated.race`: the generated
table without the accesses to members of `std::atomic` type (`Conc/Atomic.lean`), which cannot race by
definition.

`WrapperTable.lean` is imported only so that building this target also checks `wrapper_faithful`, an
obligation of the same property.
-/
namespace Verif.Conc

def Generated.race : List Method := raceTable Generated.table Generated.atomicComps

/-- re-checked on every run against the table regenerated from /repo's current headers -/
theorem table_guarded : ∀ m ∈ Generated.race, m.guarded Generated.race = true := by decide +kernel

theorem table_guarded_classes :
    ((List.range 10).all (fun c => Generated.race.any (fun m => m.cls == c))) = true ∧
    Generated.race.length = Generated.table.length := by decide +kernel

theorem generated_guarded (cls : Nat) : ∀ m ∈ Generated.race, m.cls = cls → m.guarded Generated.race = true :=
  fun m hm _ => table_guarded m hm

theorem generated_guarded_access_under_lock (cls : Nat) {s : State} (hr : Reachable Generated.race cls s)
    {t : Tid} {c : Nat} (hnext : s.next t = some (.rd c) ∨ s.next t = some (.wr c))
    (hc : c ∈ mutableOf Generated.race cls) : s.lock = some t :=
  guarded_access_under_lock (generated_guarded cls) hr hnext hc

theorem generated_guarded_race_free (cls : Nat) {s : State} (hr : Reachable Generated.race cls s)
    {t u : Tid} (htu : t ≠ u) {a b : Tok} (ha : s.next t = some a) (hb : s.next u = some b) :
    ¬ conflict a b :=
  guarded_race_free (generated_guarded cls) hr htu ha hb

theorem generated_guarded_happens_before (cls : Nat) {s : State} {tr1 tr2 tr3 : List (Tid × Ev)}
    {t u : Tid} {a b : Tok}
    (hex : Exec Generated.race cls State.init (tr1 ++ (t, .tok a) :: (tr2 ++ (u, .tok b) :: tr3)) s)
    (htu : t ≠ u) (hab : conflict a b) :
    ∃ p q r, tr2 = p ++ (t, .tok .rel) :: (q ++ (u, .tok .acq) :: r) :=
  guarded_happens_before (generated_guarded cls) hex htu hab

end Verif.Conc
