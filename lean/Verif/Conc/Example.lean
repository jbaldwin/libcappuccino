import Verif.Conc.Linearizable
import Verif.Conc.WellFormed
/-! Non-vacuity: a concrete counter, a concrete overlapping two-thread execution of the
lock-protected implementation, and a concrete history that is *not* linearizable (so the
definition is not trivially true). -/
namespace Conc.Example
open Conc

inductive COp
  | incr   -- fetch-and-increment
  | read
  deriving DecidableEq

def cstep (s : Nat) : COp → Nat × Nat
  | .incr => (s + 1, s)
  | .read => (s, s)

def hist : List (Ev COp Nat) := [.inv 0 .incr, .inv 1 .read, .res 1 1, .res 0 0]

/-- thread 1's `read` is invoked while thread 0 is active, waits for the lock, sees the incremented
counter and returns before thread 0 returns -/
theorem hist_impl : ImplHistory cstep 0 hist :=
  implHistory_nested cstep 0 42 .incr .read

example : Linearizable cstep 0 hist := locked_object_linearizable hist_impl

example : WellFormed hist := impl_wellFormed hist_impl

example : IsLinearization cstep 0 hist [⟨0, 0, .incr, 0⟩, ⟨1, 1, .read, 1⟩] := by
  -- built as `spec_linearizable` builds it: both invocations, the two calls take effect in this order
  -- (each open in the history so far), then the two responses, each answering a call in the log
  have h2 : IsLinearization cstep 0 [Ev.inv 0 COp.incr, .inv 1 .read] [] :=
    ((IsLinearization.nil cstep 0).snoc_ev (.inv 0 .incr) (fun _ _ _ _ he => nomatch he)).snoc_ev
      (.inv 1 .read) (fun _ _ _ _ he => nomatch he)
  have h3 := h2.snoc_lin ⟨0, 0, .incr, 0⟩ rfl
    (fun k e (hk : 0 < k) he => by
      rcases k with _ | _ | k
      · exact absurd hk (Nat.lt_irrefl 0)
      · cases he; exact Nat.succ_ne_zero 0
      · cases he)
    (fun _ hx => nomatch hx) rfl
  have h4 := h3.snoc_lin ⟨1, 1, .read, 1⟩ rfl
    (fun k e (hk : 1 < k) he => by
      rcases k with _ | _ | k
      · exact absurd hk (Nat.not_lt_zero 1)
      · exact absurd hk (Nat.lt_irrefl 1)
      · cases he)
    (fun x hx => by cases List.mem_singleton.1 hx; exact Nat.zero_ne_one) rfl
  have h5 := h4.snoc_ev (.res 1 1) (fun i t op out he hi _ => by
    cases he
    rcases i with _ | _ | i
    · cases hi
    · cases hi; exact List.mem_cons_of_mem _ (List.mem_cons_self ..)
    · cases hi)
  exact h5.snoc_ev (.res 0 0) (fun i t op out he hi _ => by
    cases he
    rcases i with _ | _ | _ | i
    · cases hi; exact List.mem_cons_self ..
    · cases hi
    · cases hi
    · cases hi)

/-! ### A history that is not linearizable

`incr` by thread 0 completes (returning 0) strictly before thread 1 invokes `read`, yet the
`read` returns 0.  Real-time order forces `incr` before `read`, and then `read` must see 1. -/
def badHist : List (Ev COp Nat) := [.inv 0 .incr, .res 0 0, .inv 1 .read, .res 1 0]

theorem le_finalState (s : Nat) (l : List (COp × Nat)) : s ≤ finalState cstep s l := by
  induction l generalizing s with
  | nil => exact Nat.le_refl s
  | cons x r ih =>
    obtain ⟨op, out⟩ := x
    cases op
    · exact Nat.le_trans (Nat.le_succ s) (ih (s + 1))
    · exact ih s

theorem badHist_not_linearizable : ¬ Linearizable cstep 0 badHist := by
  rintro ⟨lin, hlegal, _, _, hcomplete, _, hreal⟩
  let a : LinOp COp Nat := ⟨0, 0, .incr, 0⟩
  let b : LinOp COp Nat := ⟨2, 1, .read, 0⟩
  have hra : IsResponseOf badHist 0 1 0 0 :=
    ⟨Nat.lt_succ_self 0, rfl, fun _ _ h1 h2 => absurd (Nat.le_of_lt_succ h2) (Nat.not_le.2 h1)⟩
  have hrb : IsResponseOf badHist 2 3 1 0 :=
    ⟨Nat.lt_succ_self 2, rfl, fun _ _ h1 h2 => absurd (Nat.le_of_lt_succ h2) (Nat.not_le.2 h1)⟩
  have ha : a ∈ lin := hcomplete 0 1 0 .incr 0 rfl hra
  have hb : b ∈ lin := hcomplete 2 3 1 .read 0 rfl hrb
  obtain ⟨l1, l2, l3, rfl⟩ := hreal a b 1 0 ha hb hra (Nat.lt_succ_self 1)
  -- legality at `b`: the counter it reads is 0, although `a` has incremented it before
  rw [List.map_append, List.map_cons, List.map_append, List.map_cons, legal_append] at hlegal
  obtain ⟨_, _, hlegal⟩ := hlegal
  rw [legal_append] at hlegal
  have hread : finalState cstep _ _ = 0 := hlegal.2.1
  have := le_finalState (cstep (finalState cstep 0 (l1.map fun x => (x.op, x.out))) .incr).1
    (l2.map fun x => (x.op, x.out))
  rw [hread] at this
  exact absurd this (Nat.not_succ_le_zero _)

end Conc.Example

open Conc in
#print axioms impl_refines_spec
open Conc in
#print axioms spec_linearizable
open Conc in
#print axioms locked_object_linearizable
open Conc in
#print axioms impl_wellFormed
#print axioms Conc.Example.hist_impl
#print axioms Conc.Example.badHist_not_linearizable
