import Verif.Conc.Shape
import Verif.Generated.LockShape
/-!
# The lock wrapper of `lock.hpp`, as read from the current headers (an obligation of C02, C06 and C07)
-/
namespace Verif.Conc

/-- `cappuccino::mutex<thread_safe::yes>::lock()` is exactly one
`lock()` on the wrapped `std::mutex`, `unlock()` exactly one `unlock()` on it, and each of the ten classes
declares `m_lock` as that wrapper — so `acq` / `rel` in the table mean what `Machine.lean` takes them to
mean (mutual exclusion and release→acquire ordering of `std::mutex`, which is trusted). -/
theorem wrapper_faithful :
    Generated.wrapperLock = [1] ∧ Generated.wrapperUnlock = [2] ∧
    Generated.wrapperUnderlyingIsStdMutex = true ∧ Generated.lockFieldsAreWrapper = true := by
  decide

end Verif.Conc
