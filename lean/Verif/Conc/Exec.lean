import Verif.Conc.Sim
/-! Executions (finite runs) of the implementation and specification machines, their
histories, and the lifting of the one-step simulation `sim_step` to whole executions. -/
namespace Conc
variable {σ Op Out : Type}

/-- `h` lists the *visible* labels (`some e`) in the order they occurred; silent steps (`none`)
contribute nothing.  Steps are appended at the end. -/
inductive Exec {S E : Type} (R : S → Option E → S → Prop) (s : S) : List E → S → Prop
  | refl : Exec R s [] s
  | snoc {h : List E} {s' : S} {e : Option E} {s'' : S} :
      Exec R s h s' → R s' e s'' → Exec R s (h ++ e.toList) s''

def sInit (s0 : σ) : SState σ Op Out := { obj := s0, ph := fun _ => .idle }

def iInit (s0 : σ) : IState σ Op Out :=
  { shared := s0, saved := s0, lock := none, ph := fun _ => .idle }

def SpecHistory (step : σ → Op → σ × Out) (s0 : σ) (h : List (Ev Op Out)) : Prop :=
  ∃ s, Exec (SStep step) (sInit s0) h s

/-- `h` is a history of the lock-protected implementation started with memory `s0`
(any number of threads, any interleaving: `Exec` quantifies over all schedules) -/
def ImplHistory (step : σ → Op → σ × Out) (s0 : σ) (h : List (Ev Op Out)) : Prop :=
  ∃ i, Exec (IStep step) (iInit s0) h i

theorem Exec.silent {S E : Type} {R : S → Option E → S → Prop} {s s' s'' : S} {h : List E}
    (hx : Exec R s h s') (hs : R s' none s'') : Exec R s h s'' := by
  simpa using hx.snoc hs

theorem sim_init (s0 : σ) : Sim (iInit s0 : IState σ Op Out) (sInit s0) := by
  refine ⟨fun _ => rfl, ?_, rfl⟩
  intro t
  simp [iInit]

theorem impl_exec_sim {step : σ → Op → σ × Out} {s0 : σ} {h : List (Ev Op Out)}
    {i : IState σ Op Out} (hx : Exec (IStep step) (iInit s0) h i) :
    ∃ s, Exec (SStep step) (sInit s0) h s ∧ Sim i s := by
  induction hx with
  | refl => exact ⟨_, .refl, sim_init s0⟩
  | snoc _ hs ih =>
    obtain ⟨s, hsx, hsim⟩ := ih
    obtain ⟨s', hopt, hsim'⟩ := sim_step hsim hs
    cases hopt with
    | stutter => exact ⟨s, by simpa using hsx, hsim'⟩
    | one h1 => exact ⟨s', .snoc hsx h1, hsim'⟩

/-- Every history of the lock-protected implementation is a history of the atomic object. -/
theorem impl_refines_spec {step : σ → Op → σ × Out} {s0 : σ} {h : List (Ev Op Out)}
    (hi : ImplHistory step s0 h) : SpecHistory step s0 h := by
  obtain ⟨i, hx⟩ := hi
  obtain ⟨s, hsx, _⟩ := impl_exec_sim hx
  exact ⟨s, hsx⟩

/-- The implementation machine does run, whatever the object: thread 1's call is invoked while thread 0
is active, waits for the lock, sees the effect of `a` and returns *before* thread 0 returns.  `x`: the junk
thread 0 writes over the shared value in mid-body (`scribble`); it shows nowhere. -/
theorem implHistory_nested (step : σ → Op → σ × Out) (s0 x : σ) (a b : Op) :
    ImplHistory step s0
      [.inv 0 a, .inv 1 b, .res 1 (step (step s0 a).1 b).2, .res 0 (step s0 a).2] := by
  -- `silent` for the unlabelled steps: with `snoc` the final unification would have to normalise a history
  -- full of `++ none.toList`, which is dear
  have e0 : Exec (IStep step) (iInit s0) [] _ := Exec.refl
  have e1 := e0.snoc (IStep.inv _ 0 a rfl)
  have e2 := e1.snoc (IStep.inv _ 1 b rfl)
  have e3 := e2.silent (IStep.acquire _ 0 a rfl rfl)
  have e4 := e3.silent (IStep.scribble _ 0 a x rfl rfl)
  have e5 := e4.silent (IStep.finish _ 0 a rfl rfl)
  have e6 := e5.silent (IStep.release _ 0 _ rfl rfl)
  have e7 := e6.silent (IStep.acquire _ 1 b rfl rfl)
  have e8 := e7.silent (IStep.finish _ 1 b rfl rfl)
  have e9 := e8.silent (IStep.release _ 1 _ rfl rfl)
  have e10 := e9.snoc (IStep.res _ 1 _ rfl)
  have e11 := e10.snoc (IStep.res _ 0 _ rfl)
  exact ⟨_, e11⟩

end Conc
