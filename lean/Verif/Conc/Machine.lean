import Verif.Conc.Shape
/-!
# The token machine

Any number of threads calling the public methods of ONE object of class `cls`, a method being its lock shape
(`Shape.lean`).  A state is the holder of the object's mutex and what each thread still has to execute: there is
no data in it.  First the equations and append lemmas of `Shape.lean`'s scans, then the machine (`Step`,
`Reachable`, `Exec`, `conflict`, `InCS`), then, for any table in which only the holder ever releases, the order of
two steps that both need the lock (`Exec.ordered`).

The other machine, the locked object WITH data (`IStep`, `SStep`, linearizability), lives in the root namespace
`Conc` (Basic, Sim, Exec, Linearizable, WellFormed, Example).  No theorem connects the two: that a `wellLocked`
method is one `acquire; scribble*; finish; release` of `IStep` is a reading (DESIGN.md §3.3).  `Exec`, `Ev`, `Tid`
exist in both: inside `namespace Verif`, `Conc.Exec` is the one below and the other is `_root_.Conc.Exec`.
-/
namespace Verif.Conc

theorem hasLock_nil : hasLock [] = false := rfl
theorem hasLock_cons (x : Tok) (k : List Tok) : hasLock (x :: k) = (hasLockTok x || hasLock k) := rfl
theorem hasLock_cons_eq_false {x : Tok} {k : List Tok} :
    hasLock (x :: k) = false ↔ hasLockTok x = false ∧ hasLock k = false := Bool.or_eq_false_iff
theorem hasLockTok_loop (b : List Tok) : hasLockTok (.loop b) = hasLock b := rfl
theorem hasLockTok_acq : hasLockTok .acq = true := rfl
theorem hasLockTok_rel : hasLockTok .rel = true := rfl

theorem hasUnknown_nil : hasUnknown [] = false := rfl
theorem hasUnknown_cons (x : Tok) (k : List Tok) :
    hasUnknown (x :: k) = (hasUnknownTok x || hasUnknown k) := rfl
theorem hasUnknownTok_loop (b : List Tok) : hasUnknownTok (.loop b) = hasUnknown b := rfl
theorem hasUnknownTok_unknown (s : String) : hasUnknownTok (.unknown s) = true := rfl

theorem accessed_nil : accessed [] = [] := rfl
theorem accessed_cons (x : Tok) (k : List Tok) : accessed (x :: k) = accessedTok x ++ accessed k := rfl
theorem accessedTok_loop (b : List Tok) : accessedTok (.loop b) = accessed b := rfl
theorem accessedTok_rd (c : Nat) : accessedTok (.rd c) = [c] := rfl
theorem accessedTok_wr (c : Nat) : accessedTok (.wr c) = [c] := rfl

theorem written_nil : written [] = [] := rfl
theorem written_cons (x : Tok) (k : List Tok) : written (x :: k) = writtenTok x ++ written k := rfl
theorem writtenTok_loop (b : List Tok) : writtenTok (.loop b) = written b := rfl
theorem writtenTok_wr (c : Nat) : writtenTok (.wr c) = [c] := rfl

theorem hasLock_append (a b : List Tok) : hasLock (a ++ b) = (hasLock a || hasLock b) := by
  induction a with
  | nil => simp [hasLock_nil]
  | cons x a ih => simp [hasLock_cons, ih, Bool.or_assoc]

theorem hasLock_iter {b k : List Tok} (h : hasLock (.loop b :: k) = false) :
    hasLock (b ++ .loop b :: k) = false := by
  have hb := h
  rw [hasLock_cons_eq_false, hasLockTok_loop] at hb
  rw [hasLock_append, hb.1, h]
  rfl

theorem hasUnknown_append (a b : List Tok) :
    hasUnknown (a ++ b) = (hasUnknown a || hasUnknown b) := by
  induction a with
  | nil => simp [hasUnknown_nil]
  | cons x a ih => simp [hasUnknown_cons, ih, Bool.or_assoc]

theorem accessed_append (a b : List Tok) : accessed (a ++ b) = accessed a ++ accessed b := by
  induction a with
  | nil => simp [accessed_nil]
  | cons x a ih => simp [accessed_cons, ih]

theorem written_append (a b : List Tok) : written (a ++ b) = written a ++ written b := by
  induction a with
  | nil => simp [written_nil]
  | cons x a ih => simp [written_cons, ih]

theorem written_mem_mutableOf {table : List Method} {m : Method} {cls c : Nat}
    (hm : m ∈ table) (hcls : m.cls = cls) (hc : c ∈ written m.body) : c ∈ mutableOf table cls :=
  List.mem_flatMap.2 ⟨m, List.mem_filter.2 ⟨hm, beq_iff_eq.2 hcls⟩, hc⟩

theorem written_tail_sub {x : Tok} {k : List Tok} {c : Nat} (h : c ∈ written k) :
    c ∈ written (x :: k) := by
  rw [written_cons]; exact List.mem_append_right _ h

theorem written_iter_sub {b k : List Tok} {c : Nat} (h : c ∈ written (b ++ .loop b :: k)) :
    c ∈ written (.loop b :: k) := by
  rw [written_append, written_cons, writtenTok_loop] at h
  rw [written_cons, writtenTok_loop]
  simp only [List.mem_append] at h ⊢
  exact h.elim .inl id

abbrev Tid := Nat

/-- `lock`: the holder of the object's mutex; `cont t`: `none` if thread `t` is idle, otherwise the
tokens it still has to execute in its current method call -/
structure State where
  lock : Option Tid
  cont : Tid → Option (List Tok)

def State.init : State := ⟨none, fun _ => none⟩

def upd (f : Tid → Option (List Tok)) (t : Tid) (v : Option (List Tok)) : Tid → Option (List Tok) :=
  fun u => if u = t then v else f u

theorem upd_self (f : Tid → Option (List Tok)) (t : Tid) (v : Option (List Tok)) :
    upd f t v t = v := by simp [upd]
theorem upd_ne {f : Tid → Option (List Tok)} {t u : Tid} {v : Option (List Tok)} (h : u ≠ t) :
    upd f t v u = f u := by simp [upd, h]

theorem forall_upd (P : Tid → Option (List Tok) → Prop) {f : Tid → Option (List Tok)} {t : Tid}
    {v : Option (List Tok)} (ht : P t v) (ho : ∀ u, u ≠ t → P u (f u)) (u : Tid) :
    P u (upd f t v u) := by
  by_cases hut : u = t
  · subst hut; rw [upd_self]; exact ht
  · rw [upd_ne hut]; exact ho u hut

def State.next (s : State) (t : Tid) : Option Tok :=
  match s.cont t with
  | some (x :: _) => some x
  | _ => none

theorem State.exists_of_next_eq_some {s : State} {t : Tid} {x : Tok} (h : s.next t = some x) :
    ∃ k, s.cont t = some (x :: k) := by
  unfold State.next at h
  split at h
  · rename_i y k hk; cases h; exact ⟨k, hk⟩
  · cases h

/-- What a step does.  A thread at `loop b :: k` either runs the body once more (`iter b`) or leaves the loop
(`exit b`); both carry the body `b`. -/
inductive Ev
  | call (m : Method)
  | ret
  | tok (x : Tok)
  | iter (b : List Tok)
  | exit (b : List Tok)

/-- One step of thread `t`.  `acq` blocks unless the lock is free; `rel` frees the lock whoever holds it
(that only the holder releases is a theorem about `guarded` tables, `guarded_rel_by_holder`); a loop is
either left or unfolded once. -/
inductive Step (table : List Method) (cls : Nat) : State → Tid → Ev → State → Prop
  | call {s : State} {t : Tid} (m : Method) (hidle : s.cont t = none) (hm : m ∈ table)
      (hcls : m.cls = cls) :
      Step table cls s t (.call m) ⟨s.lock, upd s.cont t (some m.body)⟩
  | ret {s : State} {t : Tid} (h : s.cont t = some []) :
      Step table cls s t .ret ⟨s.lock, upd s.cont t none⟩
  | clock {s : State} {t : Tid} {k : List Tok} (h : s.cont t = some (.clock :: k)) :
      Step table cls s t (.tok .clock) ⟨s.lock, upd s.cont t (some k)⟩
  | rd {s : State} {t : Tid} {c : Nat} {k : List Tok} (h : s.cont t = some (.rd c :: k)) :
      Step table cls s t (.tok (.rd c)) ⟨s.lock, upd s.cont t (some k)⟩
  | wr {s : State} {t : Tid} {c : Nat} {k : List Tok} (h : s.cont t = some (.wr c :: k)) :
      Step table cls s t (.tok (.wr c)) ⟨s.lock, upd s.cont t (some k)⟩
  | unknown {s : State} {t : Tid} {str : String} {k : List Tok}
      (h : s.cont t = some (.unknown str :: k)) :
      Step table cls s t (.tok (.unknown str)) ⟨s.lock, upd s.cont t (some k)⟩
  | acq {s : State} {t : Tid} {k : List Tok} (h : s.cont t = some (.acq :: k))
      (hfree : s.lock = none) :
      Step table cls s t (.tok .acq) ⟨some t, upd s.cont t (some k)⟩
  | rel {s : State} {t : Tid} {k : List Tok} (h : s.cont t = some (.rel :: k)) :
      Step table cls s t (.tok .rel) ⟨none, upd s.cont t (some k)⟩
  | loopExit {s : State} {t : Tid} {b k : List Tok} (h : s.cont t = some (.loop b :: k)) :
      Step table cls s t (.exit b) ⟨s.lock, upd s.cont t (some k)⟩
  | loopIter {s : State} {t : Tid} {b k : List Tok} (h : s.cont t = some (.loop b :: k)) :
      Step table cls s t (.iter b) ⟨s.lock, upd s.cont t (some (b ++ .loop b :: k))⟩

inductive Reachable (table : List Method) (cls : Nat) : State → Prop
  | init : Reachable table cls State.init
  | step {s s' : State} {t : Tid} {e : Ev} :
      Reachable table cls s → Step table cls s t e s' → Reachable table cls s'

/-- `Reachable` with the trace kept (`reachable_iff_exec`): who did what, in order, which is what the
happens-before theorems speak of. -/
inductive Exec (table : List Method) (cls : Nat) : State → List (Tid × Ev) → State → Prop
  | nil {s : State} : Exec table cls s [] s
  | cons {s s1 s2 : State} {t : Tid} {e : Ev} {tr : List (Tid × Ev)} :
      Step table cls s t e s1 → Exec table cls s1 tr s2 → Exec table cls s ((t, e) :: tr) s2

def conflict (a b : Tok) : Prop :=
  ∃ c, (a = .wr c ∧ (b = .rd c ∨ b = .wr c)) ∨ (a = .rd c ∧ b = .wr c)

theorem conflict_access {a b : Tok} (h : conflict a b) :
    ∃ c, (a = .rd c ∨ a = .wr c) ∧ (b = .rd c ∨ b = .wr c) ∧ (a = .wr c ∨ b = .wr c) := by
  obtain ⟨c, ⟨rfl, hb⟩ | ⟨rfl, rfl⟩⟩ := h
  · exact ⟨c, .inr rfl, hb, .inl rfl⟩
  · exact ⟨c, .inl rfl, .inr rfl, .inr rfl⟩

/-- a continuation is in a critical section: its next lock operation is a release -/
def InCS (k : List Tok) : Prop :=
  ∃ body post, k = body ++ .rel :: post ∧ hasLock body = false

def State.inCS (s : State) (t : Tid) : Prop := ∃ k, s.cont t = some k ∧ InCS k

section HB
variable {table : List Method} {cls : Nat}

theorem Exec.split {s s' : State} {tr1 tr2 : List (Tid × Ev)}
    (h : Exec table cls s (tr1 ++ tr2) s') :
    ∃ m, Exec table cls s tr1 m ∧ Exec table cls m tr2 s' := by
  induction tr1 generalizing s with
  | nil => exact ⟨s, .nil, h⟩
  | cons a tr1 ih =>
    cases h with
    | cons hs hrest =>
      obtain ⟨m, h1, h2⟩ := ih hrest
      exact ⟨m, .cons hs h1, h2⟩

theorem Exec.reachable {s s' : State} {tr : List (Tid × Ev)} (h : Exec table cls s tr s')
    (hr : Reachable table cls s) : Reachable table cls s' := by
  induction h with
  | nil => exact hr
  | cons hs _ ih => exact ih (.step hr hs)

theorem Exec.snoc {s s1 s2 : State} {tr : List (Tid × Ev)} {t : Tid} {e : Ev}
    (h : Exec table cls s tr s1) (hs : Step table cls s1 t e s2) :
    Exec table cls s (tr ++ [(t, e)]) s2 := by
  induction h with
  | nil => exact .cons hs .nil
  | cons h1 _ ih => exact .cons h1 (ih hs)

theorem reachable_iff_exec {s : State} :
    Reachable table cls s ↔ ∃ tr, Exec table cls State.init tr s := by
  constructor
  · intro hr
    induction hr with
    | init => exact ⟨[], .nil⟩
    | @step s s' t e _ hs ih =>
      obtain ⟨tr, htr⟩ := ih
      exact ⟨tr ++ [(t, e)], htr.snoc hs⟩
  · rintro ⟨tr, htr⟩; exact htr.reachable .init

theorem Step.lock_cases {s s' : State} {t : Tid} {e : Ev} (h : Step table cls s t e s') :
    s'.lock = s.lock ∨ (e = .tok .acq ∧ s'.lock = some t) ∨ (e = .tok .rel ∧ s'.lock = none) := by
  cases h with
  | acq h hfree => exact .inr (.inl ⟨rfl, rfl⟩)
  | rel h => exact .inr (.inr ⟨rfl, rfl⟩)
  | _ => exact .inl rfl

theorem Step.tok_next {s s' : State} {t : Tid} {x : Tok} (h : Step table cls s t (.tok x) s') :
    s.next t = some x := by
  cases h <;> simp only [State.next, *]

theorem Exec.acquired {s s' : State} {tr : List (Tid × Ev)} (h : Exec table cls s tr s')
    {u : Tid} (hend : s'.lock = some u) (hbeg : s.lock ≠ some u) :
    ∃ p q, tr = p ++ (u, .tok .acq) :: q := by
  induction h with
  | nil => exact (hbeg hend).elim
  | @cons s s1 s2 t e tr hs hrest ih =>
    by_cases h1 : s1.lock = some u
    · rcases hs.lock_cases with h | ⟨he, h⟩ | ⟨_, h⟩
      · rw [h] at h1; exact (hbeg h1).elim
      · rw [h] at h1; cases h1; subst he; exact ⟨[], tr, rfl⟩
      · rw [h] at h1; cases h1
    · obtain ⟨p, q, rfl⟩ := ih hend h1
      exact ⟨(t, e) :: p, q, rfl⟩

theorem Exec.two_steps {s : State} {tr1 tr2 tr3 : List (Tid × Ev)} {t u : Tid} {e1 e2 : Ev}
    (h : Exec table cls State.init (tr1 ++ (t, e1) :: (tr2 ++ (u, e2) :: tr3)) s) :
    ∃ s1 s2 s3 s4, Reachable table cls s1 ∧ Step table cls s1 t e1 s2 ∧ Exec table cls s2 tr2 s3 ∧
      Step table cls s3 u e2 s4 := by
  obtain ⟨s1, h1, hrest⟩ := h.split
  cases hrest with
  | cons hsa hrest =>
    obtain ⟨s3, h2, hrest⟩ := hrest.split
    cases hrest with
    | cons hsb _ => exact ⟨s1, _, s3, _, h1.reachable .init, hsa, h2, hsb⟩

theorem holder_unique {s : State} {t u : Tid} (ht : s.lock = some t) (hu : s.lock = some u) :
    t = u := by
  rw [ht] at hu; exact Option.some.inj hu

/-! What follows holds of any table in which only the holder ever releases the lock (`hrel`); `Guarded.lean`
proves that of tables whose methods are `guarded`. -/

theorem Exec.handover
    (hrel : ∀ {s : State}, Reachable table cls s → ∀ {t : Tid}, s.next t = some .rel → s.lock = some t)
    {s s' : State} {tr : List (Tid × Ev)} (h : Exec table cls s tr s') (hr : Reachable table cls s)
    {t u : Tid} (htu : t ≠ u) (hbeg : s.lock = some t) (hend : s'.lock = some u) :
    ∃ p q r, tr = p ++ (t, .tok .rel) :: (q ++ (u, .tok .acq) :: r) := by
  induction h with
  | nil => rw [hbeg] at hend; exact (htu (Option.some.inj hend)).elim
  | @cons s s1 s2 x e tr hs hrest ih =>
    rcases hs.lock_cases with h | ⟨he, h⟩ | ⟨he, h⟩
    · obtain ⟨p, q, r, rfl⟩ := ih (.step hr hs) (h.trans hbeg) hend
      exact ⟨(x, e) :: p, q, r, rfl⟩
    · -- nobody acquires a lock that is held
      subst he
      cases hs with
      | acq _ hfree => rw [hbeg] at hfree; cases hfree
    · -- the releasing thread is the holder `t`; the lock is free now, so `u` acquires it later
      subst he
      obtain rfl : t = x := holder_unique hbeg (hrel hr hs.tok_next)
      obtain ⟨q, r, rfl⟩ := hrest.acquired hend (by rw [h]; nofun)
      exact ⟨[], q, r, rfl⟩

/-- Two steps of different threads that both need the lock (`ha`, `hb`) are separated by a release by the
first thread and, after it, an acquire by the second. -/
theorem Exec.ordered
    (hrel : ∀ {s : State}, Reachable table cls s → ∀ {t : Tid}, s.next t = some .rel → s.lock = some t)
    {s : State} {tr1 tr2 tr3 : List (Tid × Ev)} {t u : Tid} {a b : Tok}
    (hex : Exec table cls State.init (tr1 ++ (t, .tok a) :: (tr2 ++ (u, .tok b) :: tr3)) s)
    (htu : t ≠ u) (harel : a ≠ .rel)
    (ha : ∀ {s}, Reachable table cls s → s.next t = some a → s.lock = some t)
    (hb : ∀ {s}, Reachable table cls s → s.next u = some b → s.lock = some u) :
    ∃ p q r, tr2 = p ++ (t, .tok .rel) :: (q ++ (u, .tok .acq) :: r) := by
  obtain ⟨s1, s2, s3, s4, hr1, hsa, h2, hsb⟩ := hex.two_steps
  have hr2 : Reachable table cls s2 := .step hr1 hsa
  -- `t` still holds the lock after its step `a`, and `u` holds it before its step `b`
  have hl2 : s2.lock = some t := by
    rcases hsa.lock_cases with h | ⟨_, h⟩ | ⟨he, _⟩
    · exact h.trans (ha hr1 hsa.tok_next)
    · exact h
    · cases he; exact (harel rfl).elim
  exact h2.handover hrel hr2 htu hl2 (hb (h2.reachable hr2) hsb.tok_next)

end HB

/-- non-vacuity: a reachable state in which thread 0 holds the lock and thread 1 waits at its `acq`
(it cannot move: `Step.acq` needs `lock = none`) -/
example :
    ∃ s, Reachable [⟨0, "m", [.acq, .wr 0, .rel]⟩] 0 s ∧ s.lock = some 0 ∧
      s.next 0 = some (.wr 0) ∧ s.next 1 = some .acq := by
  let m : Method := ⟨0, "m", [.acq, .wr 0, .rel]⟩
  have e1 : Reachable [m] 0 _ := .step .init (Step.call (t := 0) m rfl (List.mem_singleton.2 rfl) rfl)
  have e2 := e1.step (Step.call (t := 1) m rfl (List.mem_singleton.2 rfl) rfl)
  have e3 := e2.step (Step.acq (t := 0) (k := [.wr 0, .rel]) rfl rfl)
  exact ⟨_, e3, rfl, rfl, rfl⟩

end Verif.Conc
