import Verif.Conc.ClockHeld
import Verif.Generated.LockShape
import Verif.Conc.WrapperTable
/-!
# ut_map / ut_set read the clock under the lock: `ClockHeld.lean` instantiated at the generated table

`table_clockInside` is re-checked by `decide` against the table regenerated from /repo's current headers
on every run of the C02 check.  It is what makes the hypothesis "clock readings never decrease along a
history" of the ut_map / ut_set theorems hold for concurrent use (`ClockHeld.lean`).  A change that samples
the clock before taking the lock (seeded change S-C02) makes `table_clockInside` false.

`WrapperTable.lean` is imported only so that building this target also checks `wrapper_faithful`, an
obligation of the same property.
-/
namespace Verif.Conc

/-- positions of ut_map and ut_set in `Generated.clsNames` -/
def clockClasses : List Nat := [8, 9]

theorem clockClasses_names :
    clockClasses.map (fun i => Generated.clsNames[i]?) = [some "ut_map", some "ut_set"] := by decide

theorem table_clockInside :
    ∀ m ∈ Generated.table, m.cls ∈ clockClasses → m.clockInside Generated.table = true := by
  decide +kernel

/-- the obligation is about real methods: both classes have methods that read the clock -/
theorem table_clock_nonvacuous :
    clockClasses.all (fun c => Generated.table.any (fun m => m.cls == c && hasClock m.body)) = true := by
  decide +kernel

theorem generated_clockInside {cls : Nat} (hc : cls ∈ clockClasses) :
    ∀ m ∈ Generated.table, m.cls = cls → m.clockInside Generated.table = true :=
  fun m hm hcls => table_clockInside m hm (hcls ▸ hc)

theorem generated_clock_under_lock {cls : Nat} (hc : cls ∈ clockClasses) {s : State}
    (hr : Reachable Generated.table cls s) {t : Tid} (hnext : s.next t = some .clock) :
    s.lock = some t :=
  clock_under_lock (generated_clockInside hc) hr hnext

theorem generated_clock_order {cls : Nat} (hc : cls ∈ clockClasses) {s : State}
    {tr1 tr2 tr3 : List (Tid × Ev)} {t u : Tid}
    (hex : Exec Generated.table cls State.init
      (tr1 ++ (t, .tok .clock) :: (tr2 ++ (u, .tok .clock) :: tr3)) s)
    (htu : t ≠ u) :
    ∃ p q r, tr2 = p ++ (t, .tok .rel) :: (q ++ (u, .tok .acq) :: r) :=
  clock_order (generated_clockInside hc) hex htu

end Verif.Conc
