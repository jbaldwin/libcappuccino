import Verif.Conc.Exec
/-! Herlihy–Wing linearizability, and the proof that every history of the canonical atomic
object (hence, by refinement, of the lock-protected implementation) is linearizable. -/
namespace Conc
variable {σ Op Out : Type}

def Ev.tid : Ev Op Out → Tid
  | .inv t _ => t
  | .res t _ => t

/-- One entry of a linearization.  Operations are identified by the position `pos` of their invocation
event in the history. -/
structure LinOp (Op Out : Type) where
  pos : Nat
  tid : Tid
  op : Op
  out : Out

def Legal (step : σ → Op → σ × Out) : σ → List (Op × Out) → Prop
  | _, [] => True
  | s, (op, out) :: r => (step s op).2 = out ∧ Legal step (step s op).1 r

def finalState (step : σ → Op → σ × Out) : σ → List (Op × Out) → σ
  | s, [] => s
  | s, (op, _) :: r => finalState step (step s op).1 r

/-- some occurrence of `a` precedes some occurrence of `b` (the lists it is used on have no duplicates) -/
def Before {α : Type} (l : List α) (a b : α) : Prop :=
  ∃ l1 l2 l3, l = l1 ++ a :: (l2 ++ b :: l3)

/-- The event at position `j` is the response matching the invocation at position `i` by thread `t`:
the *first* event of `t` after it. -/
def IsResponseOf (h : List (Ev Op Out)) (i j : Nat) (t : Tid) (out : Out) : Prop :=
  i < j ∧ h[j]? = some (.res t out) ∧ ∀ k e, i < k → k < j → h[k]? = some e → e.tid ≠ t

/-- `lin` is a linearization of the history `h` w.r.t. the sequential specification `step`
started at `s0` (Herlihy–Wing): the operations that took effect, in the order of their
linearization points.
* `complete`  : every operation that has a response in `h` is in `lin`, with the output seen in `h`;
                pending invocations of `h` may or may not be in `lin` (H–W: "extend `h` with some
                responses, drop the other pending invocations").
* `progOrder` : with `isInv`, `nodup`, `complete`: `lin` restricted to a thread equals that
                thread's subhistory (H–W "equivalence").
* `realTime`  : H–W `<_H ⊆ <_S`. -/
structure IsLinearization (step : σ → Op → σ × Out) (s0 : σ) (h : List (Ev Op Out))
    (lin : List (LinOp Op Out)) : Prop where
  legal : Legal step s0 (lin.map fun x => (x.op, x.out))
  isInv : ∀ x ∈ lin, h[x.pos]? = some (.inv x.tid x.op)
  nodup : (lin.map (·.pos)).Nodup
  complete : ∀ i j t op out, h[i]? = some (.inv t op) → IsResponseOf h i j t out →
    (⟨i, t, op, out⟩ : LinOp Op Out) ∈ lin
  progOrder : ∀ a b, a ∈ lin → b ∈ lin → a.tid = b.tid → a.pos < b.pos → Before lin a b
  realTime : ∀ a b j out, a ∈ lin → b ∈ lin → IsResponseOf h a.pos j a.tid out → j < b.pos →
    Before lin a b

def Linearizable (step : σ → Op → σ × Out) (s0 : σ) (h : List (Ev Op Out)) : Prop :=
  ∃ lin, IsLinearization step s0 h lin

theorem lt_length_of_getElem? {α : Type} {l : List α} {k : Nat} {x : α} (h : l[k]? = some x) :
    k < l.length := by
  obtain ⟨hk, _⟩ := List.getElem?_eq_some_iff.mp h
  exact hk

theorem getElem?_snoc_left {α : Type} {l : List α} {k : Nat} {x e : α} (h : l[k]? = some x) :
    (l ++ [e])[k]? = some x := by
  rw [List.getElem?_append_left (lt_length_of_getElem? h)]; exact h

theorem getElem?_snoc_of_lt {α : Type} {l : List α} {k : Nat} {x e : α}
    (h : (l ++ [e])[k]? = some x) (hk : k < l.length) : l[k]? = some x := by
  rwa [List.getElem?_append_left hk] at h

theorem getElem?_snoc_cases {α : Type} {l : List α} {k : Nat} {x e : α}
    (h : (l ++ [e])[k]? = some x) : l[k]? = some x ∨ (k = l.length ∧ x = e) := by
  rcases Nat.lt_or_ge k l.length with h1 | h1
  · exact .inl (getElem?_snoc_of_lt h h1)
  · rw [List.getElem?_append_right h1, List.getElem?_singleton] at h
    obtain ⟨h0, hx⟩ : k - l.length = 0 ∧ some e = some x := Option.ite_none_right_eq_some.1 h
    have hle : k ≤ l.length := Nat.le_of_sub_eq_zero h0
    exact .inr ⟨Nat.le_antisymm hle h1, (Option.some.inj hx).symm⟩

theorem Before.append {α : Type} {l : List α} {a b : α} (h : Before l a b) (m : List α) :
    Before (l ++ m) a b := by
  obtain ⟨l1, l2, l3, rfl⟩ := h
  exact ⟨l1, l2, l3 ++ m, by simp⟩

theorem Before.snoc_of_mem {α : Type} {l : List α} {a : α} (h : a ∈ l) (b : α) :
    Before (l ++ [b]) a b := by
  obtain ⟨l1, l2, rfl⟩ := List.append_of_mem h
  exact ⟨l1, l2, [], by simp⟩

theorem legal_append (step : σ → Op → σ × Out) (s : σ) (l1 l2 : List (Op × Out)) :
    Legal step s (l1 ++ l2) ↔ Legal step s l1 ∧ Legal step (finalState step s l1) l2 := by
  induction l1 generalizing s with
  | nil => exact ⟨fun h => ⟨trivial, h⟩, And.right⟩
  | cons x r ih =>
    show _ ∧ Legal step _ (r ++ l2) ↔ (_ ∧ Legal step _ r) ∧ Legal step (finalState step _ r) l2
    rw [ih, and_assoc]

theorem finalState_append (step : σ → Op → σ × Out) (s : σ) (l1 l2 : List (Op × Out)) :
    finalState step s (l1 ++ l2) = finalState step (finalState step s l1) l2 := by
  induction l1 generalizing s with
  | nil => rfl
  | cons x r ih => exact ih _

/-- thread `t` has no event after position `i`: a call it invoked at `i` is still open -/
def NoLater (h : List (Ev Op Out)) (t : Tid) (i : Nat) : Prop :=
  ∀ k e, i < k → h[k]? = some e → e.tid ≠ t

theorem isResponseOf_snoc {h : List (Ev Op Out)} {e : Ev Op Out} {i j : Nat} {t : Tid} {out : Out}
    (hr : IsResponseOf (h ++ [e]) i j t out) :
    IsResponseOf h i j t out ∨ (j = h.length ∧ e = .res t out ∧ i < h.length ∧ NoLater h t i) := by
  obtain ⟨hij, hj, hb⟩ := hr
  rcases getElem?_snoc_cases hj with hj' | ⟨rfl, he⟩
  · exact .inl ⟨hij, hj', fun k e' h1 h2 h3 => hb k e' h1 h2 (getElem?_snoc_left h3)⟩
  · exact .inr ⟨rfl, he.symm, hij, fun k e' h1 h3 =>
      hb k e' h1 (lt_length_of_getElem? h3) (getElem?_snoc_left h3)⟩

theorem forall_setPh {α : Type} (P : Tid → α → Prop) {f : Tid → α} {t : Tid} {v : α} (ht : P t v)
    (ho : ∀ u, u ≠ t → P u (f u)) (u : Tid) : P u (if u = t then v else f u) := by
  by_cases hu : u = t
  · rw [if_pos hu, hu]; exact ht
  · rw [if_neg hu]; exact ho u hu

/-- The phase of `t` against history and log.  `pending`: `t`'s last event is an invocation that the log does not
hold yet; `performed out`: one that the log holds, with `out`.  So a response always answers a logged call. -/
def PhInv (h : List (Ev Op Out)) (lin : List (LinOp Op Out)) (t : Tid) : SPhase Op Out → Prop
  | .idle => True
  | .pending op => ∃ i, h[i]? = some (.inv t op) ∧ NoLater h t i ∧ ∀ x ∈ lin, x.pos ≠ i
  | .performed out => ∃ i op, h[i]? = some (.inv t op) ∧ NoLater h t i ∧
      (⟨i, t, op, out⟩ : LinOp Op Out) ∈ lin

/-- Invariant: the ghost log `lin` (the operations in the order of their `perform` steps) is a
linearization of the history so far, replaying it gives the current object value, and each
thread's phase is consistent with history and log. -/
structure SInv (step : σ → Op → σ × Out) (s0 : σ) (h : List (Ev Op Out))
    (lin : List (LinOp Op Out)) (s : SState σ Op Out) : Prop where
  isLin : IsLinearization step s0 h lin
  final : finalState step s0 (lin.map fun x => (x.op, x.out)) = s.obj
  ph : ∀ t, PhInv h lin t (s.ph t)

theorem phInv_snoc_ev {h : List (Ev Op Out)} {lin : List (LinOp Op Out)} {u : Tid}
    {p : SPhase Op Out} {e : Ev Op Out} (hp : PhInv h lin u p) (he : e.tid ≠ u) :
    PhInv (h ++ [e]) lin u p := by
  have hno : ∀ i, NoLater h u i → NoLater (h ++ [e]) u i := by
    intro i hn k e' hik hk
    rcases getElem?_snoc_cases hk with hk' | ⟨_, rfl⟩
    · exact hn k e' hik hk'
    · exact he
  cases p with
  | idle => trivial
  | pending op =>
    obtain ⟨i, hi, hn, hx⟩ := hp
    exact ⟨i, getElem?_snoc_left hi, hno i hn, hx⟩
  | performed out =>
    obtain ⟨i, op, hi, hn, hx⟩ := hp
    exact ⟨i, op, getElem?_snoc_left hi, hno i hn, hx⟩

theorem phInv_snoc_lin {h : List (Ev Op Out)} {lin : List (LinOp Op Out)} {u : Tid}
    {p : SPhase Op Out} {n : LinOp Op Out} (hp : PhInv h lin u p)
    (hn : h[n.pos]? = some (.inv n.tid n.op)) (hne : n.tid ≠ u) :
    PhInv h (lin ++ [n]) u p := by
  cases p with
  | idle => trivial
  | pending op =>
    obtain ⟨i, hi, hnl, hx⟩ := hp
    refine ⟨i, hi, hnl, ?_⟩
    intro x hxm
    rcases List.mem_append.mp hxm with hx1 | hx1
    · exact hx x hx1
    · obtain rfl := List.mem_singleton.1 hx1
      intro heq
      rw [heq, hi] at hn
      exact hne (Ev.inv.inj (Option.some.inj hn)).1.symm
  | performed out =>
    obtain ⟨i, op, hi, hnl, hx⟩ := hp
    exact ⟨i, op, hi, hnl, List.mem_append_left _ hx⟩

theorem IsLinearization.nil (step : σ → Op → σ × Out) (s0 : σ) :
    IsLinearization step s0 ([] : List (Ev Op Out)) [] := by
  refine ⟨trivial, fun _ hx => (nomatch hx), List.Pairwise.nil, ?_, fun _ _ ha => (nomatch ha),
    fun _ _ _ _ ha => (nomatch ha)⟩
  intro i j t op out hi
  rw [List.getElem?_nil] at hi
  cases hi

theorem SInv.init (step : σ → Op → σ × Out) (s0 : σ) :
    SInv step s0 ([] : List (Ev Op Out)) [] (sInit s0) :=
  ⟨.nil step s0, rfl, fun _ => trivial⟩

/-- `hres`: if the new event is a response, the open call it answers is in the log, with that output.  Nothing
else is needed: `complete` is the only clause a longer history can break. -/
theorem IsLinearization.snoc_ev {step : σ → Op → σ × Out} {s0 : σ} {h : List (Ev Op Out)}
    {lin : List (LinOp Op Out)} (hl : IsLinearization step s0 h lin) (e : Ev Op Out)
    (hres : ∀ i t op out, e = .res t out → h[i]? = some (.inv t op) → NoLater h t i →
      (⟨i, t, op, out⟩ : LinOp Op Out) ∈ lin) :
    IsLinearization step s0 (h ++ [e]) lin := by
  obtain ⟨hlegal, hisInv, hnodup, hcomplete, hprog, hreal⟩ := hl
  refine ⟨hlegal, fun x hx => getElem?_snoc_left (hisInv x hx), hnodup, ?_, hprog, ?_⟩
  · intro i j t op out hi hr
    rcases isResponseOf_snoc hr with hr' | ⟨_, he, hil, hnl⟩
    · have hil : i < h.length := Nat.lt_trans hr'.1 (lt_length_of_getElem? hr'.2.1)
      exact hcomplete i j t op out (getElem?_snoc_of_lt hi hil) hr'
    · exact hres i t op out he (getElem?_snoc_of_lt hi hil) hnl
  · intro a b j out ha hb hr hjb
    rcases isResponseOf_snoc hr with hr' | ⟨rfl, _, _, _⟩
    · exact hreal a b j out ha hb hr' hjb
    · exact (Nat.lt_asymm hjb (lt_length_of_getElem? (hisInv b hb))).elim

theorem SInv.inv {step : σ → Op → σ × Out} {s0 : σ} {h : List (Ev Op Out)}
    {lin : List (LinOp Op Out)} {s : SState σ Op Out} (I : SInv step s0 h lin s)
    (t : Tid) (op : Op) :
    SInv step s0 (h ++ [.inv t op]) lin
      { s with ph := fun u => if u = t then .pending op else s.ph u } := by
  refine ⟨I.isLin.snoc_ev _ (fun _ _ _ _ he => by cases he), I.final,
    forall_setPh (PhInv _ lin) ?_ fun u hu => phInv_snoc_ev (I.ph u) (Ne.symm hu)⟩
  -- the new invocation is the last event, and every entry of the log names an earlier one
  refine ⟨h.length, List.getElem?_concat_length, ?_,
    fun x hx => Nat.ne_of_lt (lt_length_of_getElem? (I.isLin.isInv x hx))⟩
  intro k e hk hke
  rcases getElem?_snoc_cases hke with h1 | ⟨h1, _⟩
  · exact (Nat.lt_asymm hk (lt_length_of_getElem? h1)).elim
  · exact (Nat.ne_of_gt hk h1).elim

theorem SInv.res {step : σ → Op → σ × Out} {s0 : σ} {h : List (Ev Op Out)}
    {lin : List (LinOp Op Out)} {s : SState σ Op Out} (I : SInv step s0 h lin s)
    (t : Tid) (out : Out) (hp : s.ph t = .performed out) :
    SInv step s0 (h ++ [.res t out]) lin
      { s with ph := fun u => if u = t then .idle else s.ph u } := by
  refine ⟨I.isLin.snoc_ev _ ?_, I.final,
    forall_setPh (PhInv _ lin) trivial fun u hu => phInv_snoc_ev (I.ph u) (Ne.symm hu)⟩
  -- the call answered is `t`'s open call, which the phase says is in the log
  intro i t' op' out' he hi hnl
  cases he
  have hpt := I.ph t
  rw [hp] at hpt
  obtain ⟨i0, op0, hi0, hn0, hm0⟩ := hpt
  have hii : i = i0 := by
    rcases Nat.lt_trichotomy i i0 with hlt | heq | hgt
    · exact absurd rfl (hnl i0 _ hlt hi0)
    · exact heq
    · exact absurd rfl (hn0 i _ hgt hi)
  subst hii
  rw [hi0] at hi
  cases hi
  exact hm0

theorem IsLinearization.snoc_lin {step : σ → Op → σ × Out} {s0 : σ} {h : List (Ev Op Out)}
    {lin : List (LinOp Op Out)} (hl : IsLinearization step s0 h lin) (n : LinOp Op Out)
    (hn : h[n.pos]? = some (.inv n.tid n.op)) (hnl : NoLater h n.tid n.pos)
    (hfresh : ∀ x ∈ lin, x.pos ≠ n.pos)
    (hout : (step (finalState step s0 (lin.map fun x => (x.op, x.out))) n.op).2 = n.out) :
    IsLinearization step s0 h (lin ++ [n]) := by
  obtain ⟨hlegal, hisInv, hnodup, hcomplete, hprog, hreal⟩ := hl
  have mem : ∀ {x}, x ∈ lin ++ [n] → x ∈ lin ∨ x = n := fun hx =>
    (List.mem_append.1 hx).imp_right List.mem_singleton.1
  refine ⟨?_, ?_, ?_, ?_, ?_, ?_⟩
  · rw [List.map_append]
    exact (legal_append step s0 _ _).2 ⟨hlegal, hout, trivial⟩
  · intro x hx
    rcases mem hx with hx | rfl
    · exact hisInv x hx
    · exact hn
  · rw [List.map_append, List.nodup_append]
    refine ⟨hnodup, List.pairwise_singleton _ _, ?_⟩
    intro a ha b hb
    obtain ⟨x, hx, rfl⟩ := List.mem_map.1 ha
    obtain rfl := List.mem_singleton.1 hb
    exact hfresh x hx
  · intro i j t op out hi hr
    exact List.mem_append_left _ (hcomplete i j t op out hi hr)
  · intro a b ha hb htid hpos
    rcases mem hb with hb' | rfl
    · rcases mem ha with ha' | rfl
      · exact (hprog a b ha' hb' htid hpos).append _
      · -- `b` would be a later invocation by the thread of the open call
        exact absurd htid.symm (hnl b.pos _ hpos (hisInv b hb'))
    · rcases mem ha with ha' | rfl
      · exact Before.snoc_of_mem ha' _
      · exact absurd hpos (Nat.lt_irrefl _)
  · intro a b j out ha hb hr hjb
    rcases mem ha with ha' | rfl
    · rcases mem hb with hb' | rfl
      · exact (hreal a b j out ha' hb' hr hjb).append _
      · exact Before.snoc_of_mem ha' _
    · -- the open call has no response
      exact absurd rfl (hnl j _ hr.1 hr.2.1)

theorem SInv.perform {step : σ → Op → σ × Out} {s0 : σ} {h : List (Ev Op Out)}
    {lin : List (LinOp Op Out)} {s : SState σ Op Out} (I : SInv step s0 h lin s)
    (t : Tid) (op : Op) (hp : s.ph t = .pending op) :
    ∃ lin', SInv step s0 h lin'
      { obj := (step s.obj op).1,
        ph := fun u => if u = t then .performed (step s.obj op).2 else s.ph u } := by
  have hpt := I.ph t
  rw [hp] at hpt
  obtain ⟨i, hi, hnl, hfresh⟩ := hpt
  refine ⟨lin ++ [LinOp.mk i t op (step s.obj op).2],
    I.isLin.snoc_lin _ hi hnl hfresh (by rw [I.final]), ?_,
    forall_setPh (PhInv h _) ⟨i, op, hi, hnl, List.mem_append_right _ (List.mem_singleton.2 rfl)⟩
      fun u hu => phInv_snoc_lin (I.ph u) hi (Ne.symm hu)⟩
  rw [List.map_append, finalState_append, I.final]
  rfl

theorem spec_exec_inv {step : σ → Op → σ × Out} {s0 : σ} {h : List (Ev Op Out)}
    {s : SState σ Op Out} (hx : Exec (SStep step) (sInit s0) h s) :
    ∃ lin, SInv step s0 h lin s := by
  induction hx with
  | refl => exact ⟨[], .init step s0⟩
  | snoc _ hs ih =>
    obtain ⟨lin, I⟩ := ih
    cases hs with
    | inv t op _ => exact ⟨lin, I.inv t op⟩
    | perform t op hp =>
      rw [Option.toList_none, List.append_nil]
      exact I.perform t op hp
    | res t out hp => exact ⟨lin, I.res t out hp⟩

/-- Every history of the canonical atomic object is linearizable; the linearization is the
order of the `perform` steps. -/
theorem spec_linearizable {step : σ → Op → σ × Out} {s0 : σ} {h : List (Ev Op Out)}
    (hs : SpecHistory step s0 h) : Linearizable step s0 h := by
  obtain ⟨s, hx⟩ := hs
  obtain ⟨lin, I⟩ := spec_exec_inv hx
  exact ⟨lin, I.isLin⟩

/-- **C06.**  An object whose every method runs its whole body inside one critical
section of a single mutex is linearizable w.r.t. its sequential specification `step`:
every history of the implementation machine `IStep` from its initial state — any number of
threads, any schedule, arbitrary intermediate writes (`scribble`) inside the critical
sections — is linearizable. -/
theorem locked_object_linearizable {step : σ → Op → σ × Out} {s0 : σ} {h : List (Ev Op Out)}
    (hi : ImplHistory step s0 h) : Linearizable step s0 h :=
  spec_linearizable (impl_refines_spec hi)

end Conc
