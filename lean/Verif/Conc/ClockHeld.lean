import Verif.Conc.RaceFree
/-!
# Clock readings under the lock (ut_map / ut_set)

The sequential theorems about ut_map / ut_set assume that the clock readings of successive calls never
decrease (their ttl list is sorted by deadline only because of that).  With `thread_safe::yes` the
"successive calls" are the critical sections in lock order, so the assumption is met iff each call
samples `steady_clock::now()` *while holding the lock*: then the order of the readings is the order of
the critical sections and `steady_clock` is monotone.  (tlru / utlru / lfuda sample the clock before
taking the lock; their theorems do not need monotone readings, see `PropertiesAnyClock.lean`.)
-/
namespace Verif.Conc

mutual
def hasClock : List Tok → Bool
  | [] => false
  | t :: ts => hasClockTok t || hasClock ts
def hasClockTok : Tok → Bool
  | .clock => true
  | .loop b => hasClock b
  | _ => false
end

/-- the method is well locked and reads the clock, if at all, inside its critical section only -/
def Method.clockInside (table : List Method) (m : Method) : Bool :=
  m.wellLocked table &&
  (match splitCS m.body with
   | some (pre, _, post) => !hasClock pre && !hasClock post
   | none => !hasClock m.body)

theorem hasClock_nil : hasClock [] = false := rfl
theorem hasClock_cons (x : Tok) (k : List Tok) :
    hasClock (x :: k) = (hasClockTok x || hasClock k) := rfl
theorem hasClockTok_loop (b : List Tok) : hasClockTok (.loop b) = hasClock b := rfl
theorem hasClockTok_clock : hasClockTok .clock = true := rfl

theorem hasClock_append (a b : List Tok) : hasClock (a ++ b) = (hasClock a || hasClock b) := by
  induction a with
  | nil => simp [hasClock_nil]
  | cons x a ih => simp [hasClock_cons, ih, Bool.or_assoc]

theorem hasClock_iter {b k : List Tok} (h : hasClock (.loop b :: k) = false) :
    hasClock (b ++ .loop b :: k) = false := by
  have hb := h
  rw [hasClock_cons, Bool.or_eq_false_iff, hasClockTok_loop] at hb
  rw [hasClock_append, hb.1, h]
  rfl

/-! Where the clock readings of a continuation may be: an invariant (`InvC`) that does not mention the lock.
A thread about to read the clock is then in its critical section, and `guarded_inCS_holder` makes it the holder. -/

/-- `free`: a method without critical section, or the part after the release -/
inductive CPhase : List Tok → Prop
  | free {k : List Tok} (h : hasClock k = false) : CPhase k
  | before {k pre body post : List Tok} (heq : k = pre ++ .acq :: (body ++ .rel :: post))
      (hpl : hasLock pre = false) (hpc : hasClock pre = false) (hbl : hasLock body = false)
      (hpost : hasClock post = false) : CPhase k
  | inside {k body post : List Tok} (heq : k = body ++ .rel :: post) (hbl : hasLock body = false)
      (hpost : hasClock post = false) : CPhase k

theorem CPhase.tail {x : Tok} {k : List Tok} (h : CPhase (x :: k)) : CPhase k := by
  cases h with
  | free h => rw [hasClock_cons, Bool.or_eq_false_iff] at h; exact .free h.2
  | before heq hpl hpc hbl hpost =>
    rcases List.cons_eq_append_iff.1 heq with ⟨rfl, h⟩ | ⟨pre', rfl, rfl⟩
    · cases h; exact .inside rfl hbl hpost
    · rw [hasLock_cons_eq_false] at hpl
      rw [hasClock_cons, Bool.or_eq_false_iff] at hpc
      exact .before rfl hpl.2 hpc.2 hbl hpost
  | inside heq hbl hpost =>
    rcases List.cons_eq_append_iff.1 heq with ⟨rfl, h⟩ | ⟨body', rfl, rfl⟩
    · cases h; exact .free hpost
    · rw [hasLock_cons_eq_false] at hbl
      exact .inside rfl hbl.2 hpost

theorem CPhase.iter {b k : List Tok} (h : CPhase (.loop b :: k)) :
    CPhase (b ++ .loop b :: k) := by
  cases h with
  | free h => exact .free (hasClock_iter h)
  | before heq hpl hpc hbl hpost =>
    rcases List.cons_eq_append_iff.1 heq with ⟨_, h⟩ | ⟨pre', rfl, rfl⟩
    · cases h
    · exact .before (List.append_assoc b (.loop b :: pre') _).symm (hasLock_iter hpl)
        (hasClock_iter hpc) hbl hpost
  | inside heq hbl hpost =>
    rcases List.cons_eq_append_iff.1 heq with ⟨_, h⟩ | ⟨body', rfl, rfl⟩
    · cases h
    · exact .inside (List.append_assoc b (.loop b :: body') _).symm (hasLock_iter hbl)
        hpost

theorem Method.clockInside_wellLocked {table : List Method} {m : Method}
    (h : m.clockInside table = true) : m.wellLocked table = true := by
  unfold Method.clockInside at h
  rw [Bool.and_eq_true] at h
  exact h.1

theorem CPhase.ofClockInside {table : List Method} {m : Method}
    (h : m.clockInside table = true) : CPhase m.body := by
  have hwl := Method.clockInside_wellLocked h
  unfold Method.clockInside at h
  rw [Bool.and_eq_true] at h
  have h2 := h.2
  rcases wellLocked_cases hwl with hq | ⟨pre, body, post, hs, heq, hpre, _, hl, _⟩
  · -- a quiet body has no `acq` for `splitCS` to find
    cases hs : splitCS m.body with
    | none =>
      rw [hs] at h2
      exact .free (by simpa using h2)
    | some p =>
      have := quiet_hasLock hq
      rw [splitCS_eq (pre := p.1) (body := p.2.1) (post := p.2.2) hs, hasLock_append, hasLock_cons,
        hasLockTok_acq] at this
      simp at this
  · rw [hs] at h2
    simp only [Bool.and_eq_true, Bool.not_eq_true'] at h2
    exact .before heq (quiet_hasLock hpre) h2.1 hl h2.2

def InvC (s : State) : Prop := ∀ t k, s.cont t = some k → CPhase k

theorem InvC.init : InvC State.init := by
  intro t k h; cases h

theorem InvC.update {s : State} {t : Tid} {v : Option (List Tok)} {l : Option Tid} (hinv : InvC s)
    (hv : ∀ k, v = some k → CPhase k) : InvC ⟨l, upd s.cont t v⟩ :=
  forall_upd (fun _ c => ∀ k, c = some k → CPhase k) hv (fun u _ => hinv u)

theorem InvC.advance {s : State} {t : Tid} {x : Tok} {k : List Tok} {l : Option Tid}
    (hinv : InvC s) (h : s.cont t = some (x :: k)) : InvC ⟨l, upd s.cont t (some k)⟩ := by
  refine hinv.update ?_
  intro k' hk'; cases hk'; exact (hinv t _ h).tail

theorem Step.invC {table : List Method} {cls : Nat}
    (hci : ∀ m ∈ table, m.cls = cls → m.clockInside table = true)
    {s s' : State} {t : Tid} {e : Ev} (hinv : InvC s) (hs : Step table cls s t e s') :
    InvC s' := by
  cases hs with
  | call m hidle hm hcls =>
    refine hinv.update ?_
    intro k hk; cases hk; exact CPhase.ofClockInside (hci m hm hcls)
  | ret h =>
    refine hinv.update ?_
    intro k hk; cases hk
  | clock h => exact hinv.advance h
  | rd h => exact hinv.advance h
  | wr h => exact hinv.advance h
  | unknown h => exact hinv.advance h
  | loopExit h => exact hinv.advance h
  | acq h hfree => exact hinv.advance h
  | rel h => exact hinv.advance h
  | loopIter h =>
    refine hinv.update ?_
    intro k' hk'; cases hk'; exact (hinv t _ h).iter

theorem Reachable.invC {table : List Method} {cls : Nat}
    (hci : ∀ m ∈ table, m.cls = cls → m.clockInside table = true)
    {s : State} (hr : Reachable table cls s) : InvC s := by
  induction hr with
  | init => exact InvC.init
  | step _ hs ih => exact Step.invC hci ih hs

theorem CPhase.clock_inCS {k : List Tok} (h : CPhase (.clock :: k)) : InCS (.clock :: k) := by
  cases h with
  | free h => rw [hasClock_cons, hasClockTok_clock] at h; cases h
  | before heq hpl hpc hbl hpost =>
    rcases List.cons_eq_append_iff.1 heq with ⟨_, h⟩ | ⟨pre', rfl, rfl⟩
    · cases h
    · rw [hasClock_cons, hasClockTok_clock] at hpc; cases hpc
  | inside heq hbl hpost => exact ⟨_, _, heq, hbl⟩

section
variable {table : List Method} {cls : Nat}

/-- **A thread about to read the clock holds the lock.** -/
theorem clock_under_lock (hci : ∀ m ∈ table, m.cls = cls → m.clockInside table = true)
    {s : State} (hr : Reachable table cls s) {t : Tid}
    (hnext : s.next t = some .clock) : s.lock = some t := by
  obtain ⟨k, hk⟩ := State.exists_of_next_eq_some hnext
  exact guarded_inCS_holder
    (guarded_of_wellLocked fun m hm hc => Method.clockInside_wellLocked (hci m hm hc)) hr
    ⟨_, hk, (hr.invC hci t _ hk).clock_inCS⟩

/-- **Clock readings of different threads are ordered like their critical sections.** -/
theorem clock_order (hci : ∀ m ∈ table, m.cls = cls → m.clockInside table = true)
    {s : State} {tr1 tr2 tr3 : List (Tid × Ev)} {t u : Tid}
    (hex : Exec table cls State.init (tr1 ++ (t, .tok .clock) :: (tr2 ++ (u, .tok .clock) :: tr3)) s)
    (htu : t ≠ u) :
    ∃ p q r, tr2 = p ++ (t, .tok .rel) :: (q ++ (u, .tok .acq) :: r) :=
  hex.ordered
    (rel_by_holder fun m hm hc => Method.clockInside_wellLocked (hci m hm hc)) htu
    (by simp) (fun hr hn => clock_under_lock hci hr hn) (fun hr hn => clock_under_lock hci hr hn)

end

/-- non-vacuity: a method shaped like `ut_map::insert` qualifies, one shaped like `tlru_cache::insert`
(clock before the acquire) does not -/
example :
    let tbl : List Method := [⟨0, "insert", [.acq, .clock, .rd 2, .wr 0, .loop [.wr 1], .rel]⟩,
                              ⟨0, "size", [.acq, .rd 0, .rel]⟩]
    (tbl.all (fun m => m.clockInside tbl)) = true := by decide
example :
    let tbl : List Method := [⟨0, "insert", [.clock, .acq, .wr 0, .rel]⟩]
    (tbl.all (fun m => m.clockInside tbl)) = false := by decide

end Verif.Conc

