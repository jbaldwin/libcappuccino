import Verif.Conc.Machine
/-!
# Every access inside some critical section: the shape `guarded`, and what it gives

A `guarded` method may have several critical sections and may take and release the lock inside a loop
body, e.g. `[loop [acq, rd 3, wr 4, rel]]` or `[acq, wr 1, rel, clock, acq, rd 1, rel]`.

The one invariant of the token machine (`GInv`): scanning the rest of every running thread's method from its
actual "holds the lock" flag ends unlocked.  Everything else is read off it: the token a thread is about to
execute passes the scan from that flag (`guarded_next`), so accesses and releases belong to the holder.
-/
namespace Verif.Conc

mutual
/-- scan a token list with the flag "lock held"; the flag at the end, or `none` if ill-formed -/
def guarded (mutc : List Nat) : Bool → List Tok → Option Bool
  | h, [] => some h
  | h, t :: ts => (guardedTok mutc h t).bind (fun h' => guarded mutc h' ts)
/-- one token: `acq` only when not held, `rel` only when held, accesses to mutable components only
when held, `unknown` never, a loop body must leave the flag as it found it -/
def guardedTok (mutc : List Nat) : Bool → Tok → Option Bool
  | h, .clock => some h
  | h, .acq => if h then none else some true
  | h, .rel => if h then some false else none
  | h, .rd c => if h || !mutc.contains c then some h else none
  | h, .wr c => if h || !mutc.contains c then some h else none
  | h, .loop b => if guarded mutc h b == some h then some h else none
  | _, .unknown _ => none
end

/-- **Guarded**: scanning the body from "not held" is well formed and ends "not held": every access
to a mutable component of the class is inside some critical section. -/
def Method.guarded (table : List Method) (m : Method) : Bool :=
  Verif.Conc.guarded (mutableOf table m.cls) false m.body == some false

section Eqns
variable (mutc : List Nat)

theorem guarded_nil (h : Bool) : guarded mutc h [] = some h := rfl
theorem guarded_cons (h : Bool) (x : Tok) (k : List Tok) :
    guarded mutc h (x :: k) = (guardedTok mutc h x).bind (fun h' => guarded mutc h' k) := rfl
theorem guardedTok_clock (h : Bool) : guardedTok mutc h .clock = some h := rfl
theorem guardedTok_acq (h : Bool) : guardedTok mutc h .acq = if h then none else some true := rfl
theorem guardedTok_rel (h : Bool) : guardedTok mutc h .rel = if h then some false else none := rfl
theorem guardedTok_rd (h : Bool) (c : Nat) :
    guardedTok mutc h (.rd c) = if h || !mutc.contains c then some h else none := rfl
theorem guardedTok_wr (h : Bool) (c : Nat) :
    guardedTok mutc h (.wr c) = if h || !mutc.contains c then some h else none := rfl
theorem guardedTok_loop (h : Bool) (b : List Tok) :
    guardedTok mutc h (.loop b) = if guarded mutc h b == some h then some h else none := rfl
theorem guardedTok_unknown (h : Bool) (s : String) : guardedTok mutc h (.unknown s) = none := rfl

end Eqns

theorem guarded_append (mutc : List Nat) (h : Bool) (a b : List Tok) :
    guarded mutc h (a ++ b) = (guarded mutc h a).bind (fun h' => guarded mutc h' b) := by
  induction a generalizing h with
  | nil => simp [guarded_nil]
  | cons x a ih =>
    rw [List.cons_append, guarded_cons, guarded_cons]
    cases guardedTok mutc h x with
    | none => rfl
    | some h' => simp [ih]

theorem guarded_cons_eq_some {mutc : List Nat} {h r : Bool} {x : Tok} {k : List Tok}
    (hg : guarded mutc h (x :: k) = some r) :
    ∃ h', guardedTok mutc h x = some h' ∧ guarded mutc h' k = some r := by
  rw [guarded_cons] at hg
  exact Option.bind_eq_some_iff.1 hg

theorem guarded_append_eq_some {mutc : List Nat} {h r : Bool} {a b : List Tok}
    (hg : guarded mutc h (a ++ b) = some r) :
    ∃ h', guarded mutc h a = some h' ∧ guarded mutc h' b = some r := by
  rw [guarded_append] at hg
  exact Option.bind_eq_some_iff.1 hg

theorem guardedTok_keep {mutc : List Nat} {h h' : Bool} {x : Tok} (h1 : x ≠ .acq) (h2 : x ≠ .rel)
    (hx : guardedTok mutc h x = some h') : h' = h := by
  -- `rd`, `wr`, `loop` pass the flag on if their test succeeds
  have pass : ∀ {c : Prop} [Decidable c], (if c then some h else none) = some h' → h' = h :=
    fun hx => (Option.some.inj (Option.ite_none_right_eq_some.1 hx).2).symm
  cases x with
  | clock => rw [guardedTok_clock] at hx; exact (Option.some.inj hx).symm
  | acq => exact (h1 rfl).elim
  | rel => exact (h2 rfl).elim
  | rd c =>
    rw [guardedTok_rd] at hx
    exact pass hx
  | wr c =>
    rw [guardedTok_wr] at hx
    exact pass hx
  | loop b =>
    rw [guardedTok_loop] at hx
    exact pass hx
  | unknown s => rw [guardedTok_unknown] at hx; cases hx

theorem guardedTok_loop_body {mutc : List Nat} {h h' : Bool} {b : List Tok}
    (hx : guardedTok mutc h (.loop b) = some h') : guarded mutc h b = some h := by
  rw [guardedTok_loop] at hx
  exact beq_iff_eq.1 (Option.ite_none_right_eq_some.1 hx).1

theorem guardedTok_acq_eq_some {mutc : List Nat} {h h' : Bool}
    (hx : guardedTok mutc h .acq = some h') : h = false ∧ h' = true := by
  rw [guardedTok_acq] at hx
  cases h with
  | true => cases hx
  | false => exact ⟨rfl, (Option.some.inj hx).symm⟩

theorem guardedTok_rel_eq_some {mutc : List Nat} {h h' : Bool}
    (hx : guardedTok mutc h .rel = some h') : h = true ∧ h' = false := by
  rw [guardedTok_rel] at hx
  cases h with
  | true => exact ⟨rfl, (Option.some.inj hx).symm⟩
  | false => cases hx

theorem guardedTok_access {mutc : List Nat} {h h' : Bool} {x : Tok} {c : Nat}
    (hx : x = .rd c ∨ x = .wr c) (hg : guardedTok mutc h x = some h') (hc : c ∈ mutc) :
    h = true := by
  have key : (h || !mutc.contains c) = true := by
    rcases hx with rfl | rfl
    · rw [guardedTok_rd] at hg; exact (Option.ite_none_right_eq_some.1 hg).1
    · rw [guardedTok_wr] at hg; exact (Option.ite_none_right_eq_some.1 hg).1
  simpa [hc] using key

theorem guarded_keep {mutc : List Nat} {k : List Tok} {h h' : Bool} (hl : hasLock k = false)
    (hg : guarded mutc h k = some h') : h' = h := by
  induction k generalizing h with
  | nil => rw [guarded_nil] at hg; exact (Option.some.inj hg).symm
  | cons x k ih =>
    rw [hasLock_cons_eq_false] at hl
    obtain ⟨h1, hx, hk⟩ := guarded_cons_eq_some hg
    have h1h : h1 = h := by
      refine guardedTok_keep ?_ ?_ hx
      · rintro rfl; rw [hasLockTok_acq] at hl; cases hl.1
      · rintro rfl; rw [hasLockTok_rel] at hl; cases hl.1
    rw [h1h] at hk
    exact ih hl.2 hk

theorem guarded_inCS {mutc : List Nat} {k : List Tok} {h r : Bool} (hk : InCS k)
    (hg : guarded mutc h k = some r) : h = true := by
  obtain ⟨body, post, rfl, hl⟩ := hk
  obtain ⟨h', hb, hr⟩ := guarded_append_eq_some hg
  obtain ⟨_, hx, _⟩ := guarded_cons_eq_some hr
  rw [guarded_keep hl hb] at hx
  exact (guardedTok_rel_eq_some hx).1

theorem guarded_iter {mutc : List Nat} {b k : List Tok} {h r : Bool}
    (hg : guarded mutc h (.loop b :: k) = some r) : guarded mutc h (b ++ .loop b :: k) = some r := by
  obtain ⟨_, hx, _⟩ := guarded_cons_eq_some hg
  rw [guarded_append, guardedTok_loop_body hx, Option.bind_some]
  exact hg

mutual
/-- A stretch with no lock operation and nothing unknown passes the scan with the flag as it was, provided
that with the flag off it touches nothing mutable: the `quiet` ends and the body of a `wellLocked` method. -/
theorem guarded_of_lockfree (mutc : List Nat) : ∀ (k : List Tok) (h : Bool),
    hasLock k = false → hasUnknown k = false →
    (h = false → ∀ c ∈ accessed k, c ∉ mutc) → guarded mutc h k = some h
  | [] => fun h _ _ _ => guarded_nil mutc h
  | x :: k => fun h hl hu ha => by
    rw [hasLock_cons_eq_false] at hl
    rw [hasUnknown_cons, Bool.or_eq_false_iff] at hu
    rw [guarded_cons,
      guardedTok_of_lockfree mutc x h hl.1 hu.1
        (fun hh c hc => ha hh c (by rw [accessed_cons]; exact List.mem_append_left _ hc))]
    exact guarded_of_lockfree mutc k h hl.2 hu.2
      (fun hh c hc => ha hh c (by rw [accessed_cons]; exact List.mem_append_right _ hc))
theorem guardedTok_of_lockfree (mutc : List Nat) : ∀ (x : Tok) (h : Bool),
    hasLockTok x = false → hasUnknownTok x = false →
    (h = false → ∀ c ∈ accessedTok x, c ∉ mutc) → guardedTok mutc h x = some h
  | .clock => fun h _ _ _ => guardedTok_clock mutc h
  | .acq => fun _ hl _ _ => by rw [hasLockTok_acq] at hl; cases hl
  | .rel => fun _ hl _ _ => by rw [hasLockTok_rel] at hl; cases hl
  | .rd c => fun h _ _ ha => by
    rw [guardedTok_rd]
    cases h with
    | true => rfl
    | false =>
      have hnm : c ∉ mutc :=
        ha rfl c (by rw [accessedTok_rd]; exact List.mem_singleton.2 rfl)
      simp [hnm]
  | .wr c => fun h _ _ ha => by
    rw [guardedTok_wr]
    cases h with
    | true => rfl
    | false =>
      have hnm : c ∉ mutc :=
        ha rfl c (by rw [accessedTok_wr]; exact List.mem_singleton.2 rfl)
      simp [hnm]
  | .loop b => fun h hl hu ha => by
    rw [hasLockTok_loop] at hl
    rw [hasUnknownTok_loop] at hu
    rw [guardedTok_loop,
      guarded_of_lockfree mutc b h hl hu (fun hh c hc => ha hh c (by rw [accessedTok_loop]; exact hc))]
    exact if_pos (beq_iff_eq.2 rfl)
  | .unknown s => fun _ _ hu _ => by rw [hasUnknownTok_unknown] at hu; cases hu
end

structure GInv (table : List Method) (cls : Nat) (s : State) : Prop where
  scan : ∀ t k, s.cont t = some k →
    guarded (mutableOf table cls) (decide (s.lock = some t)) k = some false
  idle : ∀ t, s.cont t = none → s.lock ≠ some t
  /-- a continuation writes no more than its method, and what the methods write is what `mutableOf` collects -/
  wr : ∀ t k, s.cont t = some k → ∀ c ∈ written k, c ∈ mutableOf table cls

theorem GInv.init {table : List Method} {cls : Nat} : GInv table cls State.init where
  scan := by intro t k h; cases h
  idle := by intro t _ h; cases h
  wr := by intro t k h; cases h

/-- Thread `t` moves to `v` and the lock to `l`.  `hl`: no other thread's "holds the lock" flag changes, so only
`t`'s own clauses are left to show.  The next three are the forms `Step.ginv` needs. -/
theorem GInv.set {table : List Method} {cls : Nat} {s : State} {t : Tid}
    {v : Option (List Tok)} {l : Option Tid} (hinv : GInv table cls s)
    (hl : ∀ u, u ≠ t → (l = some u ↔ s.lock = some u))
    (hscan : ∀ k, v = some k → guarded (mutableOf table cls) (decide (l = some t)) k = some false)
    (hidle : v = none → l ≠ some t)
    (hwr : ∀ k, v = some k → ∀ c ∈ written k, c ∈ mutableOf table cls) :
    GInv table cls ⟨l, upd s.cont t v⟩ where
  scan := forall_upd
    (fun u c => ∀ k, c = some k →
      guarded (mutableOf table cls) (decide (l = some u)) k = some false)
    hscan (fun u hut k hk => by rw [decide_eq_decide.2 (hl u hut)]; exact hinv.scan u k hk)
  idle := forall_upd (fun u c => c = none → l ≠ some u)
    hidle (fun u hut hk h => hinv.idle u hk ((hl u hut).1 h))
  wr := forall_upd (fun _ c => ∀ k, c = some k → ∀ c ∈ written k, c ∈ mutableOf table cls)
    hwr (fun u _ => hinv.wr u)

/-- the lock stays as it is (`call`, `ret`) -/
theorem GInv.update {table : List Method} {cls : Nat} {s : State} {t : Tid}
    {v : Option (List Tok)} (hinv : GInv table cls s)
    (hscan : ∀ k, v = some k →
      guarded (mutableOf table cls) (decide (s.lock = some t)) k = some false)
    (hidle : v = none → s.lock ≠ some t)
    (hwr : ∀ k, v = some k → ∀ c ∈ written k, c ∈ mutableOf table cls) :
    GInv table cls ⟨s.lock, upd s.cont t v⟩ :=
  hinv.set (fun _ _ => Iff.rfl) hscan hidle hwr

/-- `t` goes on from `k` to `k'` inside its call: `k'` scans from the new flag and writes no more than `k`
(`acq`, `rel`, a loop iteration) -/
theorem GInv.move {table : List Method} {cls : Nat} {s : State} {t : Tid} {k k' : List Tok}
    {l : Option Tid} (hinv : GInv table cls s) (h : s.cont t = some k)
    (hl : ∀ u, u ≠ t → (l = some u ↔ s.lock = some u))
    (hscan : guarded (mutableOf table cls) (decide (l = some t)) k' = some false)
    (hsub : ∀ c ∈ written k', c ∈ written k) :
    GInv table cls ⟨l, upd s.cont t (some k')⟩ := by
  refine hinv.set hl ?_ nofun ?_
  · intro _ hk; cases hk; exact hscan
  · intro _ hk c hc; cases hk; exact hinv.wr t k h c (hsub c hc)

/-- `scan` at the token `t` executes next; `guarded_next` is its first half over `Reachable` -/
theorem GInv.next {table : List Method} {cls : Nat} {s : State} {t : Tid} {x : Tok} {k : List Tok}
    (hinv : GInv table cls s) (h : s.cont t = some (x :: k)) :
    ∃ h', guardedTok (mutableOf table cls) (decide (s.lock = some t)) x = some h' ∧
      guarded (mutableOf table cls) h' k = some false :=
  guarded_cons_eq_some (hinv.scan t _ h)

/-- `t` passes a token that is no lock operation: flag and lock stay -/
theorem GInv.advance {table : List Method} {cls : Nat} {s : State} {t : Tid} {x : Tok}
    {k : List Tok} (hinv : GInv table cls s) (h : s.cont t = some (x :: k)) (h1 : x ≠ .acq)
    (h2 : x ≠ .rel) : GInv table cls ⟨s.lock, upd s.cont t (some k)⟩ := by
  obtain ⟨h', hx, hk⟩ := hinv.next h
  rw [guardedTok_keep h1 h2 hx] at hk
  exact hinv.move h (fun _ _ => Iff.rfl) hk fun _ => written_tail_sub

theorem Step.ginv {table : List Method} {cls : Nat}
    (hg : ∀ m ∈ table, m.cls = cls → m.guarded table = true)
    {s s' : State} {t : Tid} {e : Ev} (hinv : GInv table cls s) (hs : Step table cls s t e s') :
    GInv table cls s' := by
  cases hs with
  | call m hidle hm hcls =>
    refine hinv.update ?_ ?_ ?_
    · intro k hk; cases hk
      rw [decide_eq_false (hinv.idle t hidle)]
      have := hg m hm hcls
      subst hcls
      exact beq_iff_eq.1 this
    · intro hk; cases hk
    · intro k hk c hc; cases hk; exact written_mem_mutableOf hm hcls hc
  | ret h =>
    refine hinv.update ?_ ?_ ?_
    · intro k hk; cases hk
    · intro _
      have := hinv.scan t _ h
      rw [guarded_nil] at this
      exact of_decide_eq_false (Option.some.inj this)
    · intro k hk; cases hk
  | clock h => exact hinv.advance h (by simp) (by simp)
  | rd h => exact hinv.advance h (by simp) (by simp)
  | wr h => exact hinv.advance h (by simp) (by simp)
  | unknown h => exact hinv.advance h (by simp) (by simp)
  | loopExit h => exact hinv.advance h (by simp) (by simp)
  | loopIter h =>
    exact hinv.move h (fun _ _ => Iff.rfl) (guarded_iter (hinv.scan t _ h)) fun _ => written_iter_sub
  | acq h hfree =>
    -- the scan sets the flag of `t`; the lock was free, so no other thread's flag changes
    obtain ⟨h', hx, hk⟩ := hinv.next h
    rw [(guardedTok_acq_eq_some hx).2] at hk
    refine hinv.move h ?_ ?_ fun _ => written_tail_sub
    · intro u hut; rw [hfree]
      exact ⟨fun e => (hut (Option.some.inj e).symm).elim, nofun⟩
    · rw [decide_eq_true rfl]; exact hk
  | rel h =>
    -- the scan resets the flag of `t`, which was the holder, so no other thread's flag changes
    obtain ⟨h', hx, hk⟩ := hinv.next h
    have hlock : s.lock = some t := of_decide_eq_true (guardedTok_rel_eq_some hx).1
    rw [(guardedTok_rel_eq_some hx).2] at hk
    refine hinv.move h ?_ ?_ fun _ => written_tail_sub
    · intro u hut; rw [hlock]
      exact ⟨nofun, fun e => (hut (Option.some.inj e).symm).elim⟩
    · rw [decide_eq_false nofun]; exact hk

theorem Reachable.ginv {table : List Method} {cls : Nat}
    (hg : ∀ m ∈ table, m.cls = cls → m.guarded table = true)
    {s : State} (hr : Reachable table cls s) : GInv table cls s := by
  induction hr with
  | init => exact GInv.init
  | step _ hs ih => exact Step.ginv hg ih hs

section Main
variable {table : List Method} {cls : Nat}

theorem guarded_invariant (hg : ∀ m ∈ table, m.cls = cls → m.guarded table = true)
    {s : State} (hr : Reachable table cls s) {t : Tid} {k : List Tok} (hk : s.cont t = some k) :
    guarded (mutableOf table cls) (decide (s.lock = some t)) k = some false :=
  (hr.ginv hg).scan t k hk

theorem guarded_idle_not_holder (hg : ∀ m ∈ table, m.cls = cls → m.guarded table = true)
    {s : State} (hr : Reachable table cls s) {t : Tid} (hk : s.cont t = none) :
    s.lock ≠ some t :=
  (hr.ginv hg).idle t hk

/-- the theorems about single tokens below are this, read with the equation of `guardedTok` for the token -/
theorem guarded_next (hg : ∀ m ∈ table, m.cls = cls → m.guarded table = true)
    {s : State} (hr : Reachable table cls s) {t : Tid} {x : Tok} (hnext : s.next t = some x) :
    ∃ h', guardedTok (mutableOf table cls) (decide (s.lock = some t)) x = some h' := by
  obtain ⟨k, hk⟩ := State.exists_of_next_eq_some hnext
  exact (guarded_cons_eq_some (guarded_invariant hg hr hk)).imp fun _ h => h.1

theorem guarded_access_holder (hg : ∀ m ∈ table, m.cls = cls → m.guarded table = true)
    {s : State} (hr : Reachable table cls s) {t : Tid} {x : Tok} {c : Nat}
    (hnext : s.next t = some x) (hx : x = .rd c ∨ x = .wr c) (hc : c ∈ mutableOf table cls) :
    s.lock = some t := by
  obtain ⟨h', hg'⟩ := guarded_next hg hr hnext
  exact of_decide_eq_true (guardedTok_access hx hg' hc)

theorem guarded_access_under_lock (hg : ∀ m ∈ table, m.cls = cls → m.guarded table = true)
    {s : State} (hr : Reachable table cls s) {t : Tid} {c : Nat}
    (hnext : s.next t = some (.rd c) ∨ s.next t = some (.wr c))
    (hc : c ∈ mutableOf table cls) : s.lock = some t :=
  hnext.elim (fun h => guarded_access_holder hg hr h (.inl rfl) hc)
    (fun h => guarded_access_holder hg hr h (.inr rfl) hc)

theorem guarded_write_mutable (hg : ∀ m ∈ table, m.cls = cls → m.guarded table = true)
    {s : State} (hr : Reachable table cls s) {t : Tid} {c : Nat}
    (hnext : s.next t = some (.wr c)) : c ∈ mutableOf table cls := by
  obtain ⟨k, hk⟩ := State.exists_of_next_eq_some hnext
  refine (hr.ginv hg).wr t _ hk c ?_
  rw [written_cons, writtenTok_wr]
  exact List.mem_append_left _ (List.mem_singleton.2 rfl)

/-- **Data-race freedom**: in no reachable state are two distinct threads about to perform
conflicting accesses. -/
theorem guarded_race_free (hg : ∀ m ∈ table, m.cls = cls → m.guarded table = true)
    {s : State} (hr : Reachable table cls s) {t u : Tid} (htu : t ≠ u) {a b : Tok}
    (ha : s.next t = some a) (hb : s.next u = some b) : ¬ conflict a b := by
  intro hab
  obtain ⟨c, hac, hbc, hw⟩ := conflict_access hab
  -- the component is written by one of the two, hence mutable: both threads would hold the lock
  have hc : c ∈ mutableOf table cls := by
    rcases hw with rfl | rfl
    · exact guarded_write_mutable hg hr ha
    · exact guarded_write_mutable hg hr hb
  exact htu (holder_unique (guarded_access_holder hg hr ha hac hc)
    (guarded_access_holder hg hr hb hbc hc))

theorem guarded_rel_by_holder (hg : ∀ m ∈ table, m.cls = cls → m.guarded table = true)
    {s : State} (hr : Reachable table cls s) {t : Tid} (hnext : s.next t = some .rel) :
    s.lock = some t := by
  obtain ⟨h', hx⟩ := guarded_next hg hr hnext
  exact of_decide_eq_true (guardedTok_rel_eq_some hx).1

/-- a thread about to acquire does not already hold the (non-recursive) lock: no self-deadlock -/
theorem guarded_acq_not_holder (hg : ∀ m ∈ table, m.cls = cls → m.guarded table = true)
    {s : State} (hr : Reachable table cls s) {t : Tid} (hnext : s.next t = some .acq) :
    s.lock ≠ some t := by
  obtain ⟨h', hx⟩ := guarded_next hg hr hnext
  exact of_decide_eq_false (guardedTok_acq_eq_some hx).1

theorem guarded_no_unknown (hg : ∀ m ∈ table, m.cls = cls → m.guarded table = true)
    {s : State} (hr : Reachable table cls s) (t : Tid) (str : String) :
    s.next t ≠ some (.unknown str) := by
  intro hnext
  obtain ⟨h', hx⟩ := guarded_next hg hr hnext
  rw [guardedTok_unknown] at hx; cases hx

theorem guarded_inCS_holder (hg : ∀ m ∈ table, m.cls = cls → m.guarded table = true)
    {s : State} (hr : Reachable table cls s) {t : Tid} (ht : s.inCS t) : s.lock = some t := by
  obtain ⟨k, hk, hcs⟩ := ht
  exact of_decide_eq_true (guarded_inCS hcs ((hr.ginv hg).scan t k hk))

theorem guarded_cs_no_overlap (hg : ∀ m ∈ table, m.cls = cls → m.guarded table = true)
    {s : State} (hr : Reachable table cls s) {t u : Tid} (ht : s.inCS t) (hu : s.inCS u) :
    t = u :=
  holder_unique (guarded_inCS_holder hg hr ht) (guarded_inCS_holder hg hr hu)

end Main

section HB
variable {table : List Method} {cls : Nat}

/-- **Happens-before**: between two conflicting accesses by different threads the first thread releases
the lock and, after that, the second acquires it. -/
theorem guarded_happens_before (hg : ∀ m ∈ table, m.cls = cls → m.guarded table = true)
    {s : State} {tr1 tr2 tr3 : List (Tid × Ev)} {t u : Tid} {a b : Tok}
    (hex : Exec table cls State.init (tr1 ++ (t, .tok a) :: (tr2 ++ (u, .tok b) :: tr3)) s)
    (htu : t ≠ u) (hab : conflict a b) :
    ∃ p q r, tr2 = p ++ (t, .tok .rel) :: (q ++ (u, .tok .acq) :: r) := by
  obtain ⟨s1, s2, s3, s4, hr1, hsa, h2, hsb⟩ := hex.two_steps
  obtain ⟨c, hac, hbc, hw⟩ := conflict_access hab
  -- the component is written by one of the two steps, hence mutable
  have hc : c ∈ mutableOf table cls := by
    rcases hw with rfl | rfl
    · exact guarded_write_mutable hg hr1 hsa.tok_next
    · exact guarded_write_mutable hg (h2.reachable (.step hr1 hsa)) hsb.tok_next
  exact hex.ordered (guarded_rel_by_holder hg) htu (by rcases hac with rfl | rfl <;> simp)
    (fun hr hn => guarded_access_holder hg hr hn hac hc)
    (fun hr hn => guarded_access_holder hg hr hn hbc hc)

end HB

/-- non-vacuity: `spin` takes and releases the lock inside a loop body, `twice` has two critical
sections; both are `guarded`, neither is `wellLocked` -/
def guardedDemo : List Method :=
  [⟨0, "spin", [.loop [.acq, .rd 0, .wr 0, .rel]]⟩,
   ⟨0, "twice", [.acq, .wr 1, .rel, .clock, .acq, .rd 1, .rd 0, .rel]⟩]

example :
    guardedDemo.all (fun m => m.guarded guardedDemo) = true ∧
    guardedDemo.any (fun m => m.wellLocked guardedDemo) = false ∧
    mutableOf guardedDemo 0 = [0, 1] := by decide

example :
    guarded [0] false [.rd 0] = none ∧
    guarded [0] false [.acq, .acq] = none ∧
    guarded [0] false [.loop [.acq, .wr 0]] = none ∧
    guarded [0] false [.acq, .wr 0] = some true ∧
    guarded [0] false [.rd 7, .clock] = some false := by decide

theorem guardedDemo_guarded : ∀ m ∈ guardedDemo, m.cls = 0 → m.guarded guardedDemo = true := by
  decide

example {s : State} (hr : Reachable guardedDemo 0 s) {t u : Tid} (htu : t ≠ u) {a b : Tok}
    (ha : s.next t = some a) (hb : s.next u = some b) : ¬ conflict a b :=
  guarded_race_free guardedDemo_guarded hr htu ha hb

/-- a reachable state: thread 0 in the second iteration of `spin`, thread 1 waiting at the first `acq`
of `twice` -/
example :
    ∃ s, Reachable guardedDemo 0 s ∧ s.lock = some 0 ∧ s.next 0 = some (.wr 0) ∧
      s.next 1 = some .acq := by
  let b : List Tok := [.acq, .rd 0, .wr 0, .rel]
  have e1 : Reachable guardedDemo 0 _ :=
    .step .init (Step.call (t := 0) ⟨0, "spin", [.loop b]⟩ rfl (List.mem_cons_self ..) rfl)
  have e2 := e1.step (Step.call (t := 1)
    ⟨0, "twice", [.acq, .wr 1, .rel, .clock, .acq, .rd 1, .rd 0, .rel]⟩ rfl
    (List.mem_cons_of_mem _ (List.mem_cons_self ..)) rfl)
  have e3 := e2.step (Step.loopIter (t := 0) (b := b) (k := []) rfl)
  have e4 := e3.step (Step.acq (t := 0) (k := [.rd 0, .wr 0, .rel, .loop b]) rfl rfl)
  have e5 := e4.step (Step.rd (t := 0) (c := 0) (k := [.wr 0, .rel, .loop b]) rfl)
  have e6 := e5.step (Step.wr (t := 0) (c := 0) (k := [.rel, .loop b]) rfl)
  have e7 := e6.step (Step.rel (t := 0) (k := [.loop b]) rfl)
  have e8 := e7.step (Step.loopIter (t := 0) (b := b) (k := []) rfl)
  have e9 := e8.step (Step.acq (t := 0) (k := [.rd 0, .wr 0, .rel, .loop b]) rfl rfl)
  have e10 := e9.step (Step.rd (t := 0) (c := 0) (k := [.wr 0, .rel, .loop b]) rfl)
  exact ⟨_, e10, rfl, rfl, rfl⟩

end Verif.Conc

