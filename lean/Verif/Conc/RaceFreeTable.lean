import Verif.Conc.RaceFree
import Verif.Conc.Table
/-!
# Data-race freedom of the ten containers: `RaceFree.lean` instantiated at the generated table
-/
namespace Verif.Conc

theorem generated_wellLocked (cls : Nat) :
    ∀ m ∈ Generated.table, m.cls = cls → m.wellLocked Generated.table = true :=
  fun m hm _ => table_wellLocked m hm

theorem generated_access_under_lock (cls : Nat) {s : State}
    (hr : Reachable Generated.table cls s) {t : Tid} {c : Nat}
    (hnext : s.next t = some (.rd c) ∨ s.next t = some (.wr c))
    (hc : c ∈ mutableOf Generated.table cls) : s.lock = some t :=
  access_under_lock (generated_wellLocked cls) hr hnext hc

theorem generated_race_free (cls : Nat) {s : State} (hr : Reachable Generated.table cls s)
    {t u : Tid} (htu : t ≠ u) {a b : Tok} (ha : s.next t = some a) (hb : s.next u = some b) :
    ¬ conflict a b :=
  race_free (generated_wellLocked cls) hr htu ha hb

theorem generated_cs_no_overlap (cls : Nat) {s : State} (hr : Reachable Generated.table cls s)
    {t u : Tid} (ht : s.inCS t) (hu : s.inCS u) : t = u :=
  cs_no_overlap (generated_wellLocked cls) hr ht hu

theorem generated_rel_by_holder (cls : Nat) {s : State} (hr : Reachable Generated.table cls s)
    {t : Tid} (hnext : s.next t = some .rel) : s.lock = some t :=
  rel_by_holder (generated_wellLocked cls) hr hnext

theorem generated_happens_before (cls : Nat) {s : State} {tr1 tr2 tr3 : List (Tid × Ev)}
    {t u : Tid} {a b : Tok}
    (hex : Exec Generated.table cls State.init
      (tr1 ++ (t, .tok a) :: (tr2 ++ (u, .tok b) :: tr3)) s)
    (htu : t ≠ u) (hab : conflict a b) :
    ∃ p q r, tr2 = p ++ (t, .tok .rel) :: (q ++ (u, .tok .acq) :: r) :=
  happens_before (generated_wellLocked cls) hex htu hab

/-- each of the ten classes has methods in the table, so each instance talks about real calls -/
theorem generated_classes_nonempty :
    ((List.range 10).all (fun c => Generated.table.any (fun m => m.cls == c))) = true :=
  table_classes.1

end Verif.Conc
