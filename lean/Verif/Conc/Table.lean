import Verif.Conc.Shape
import Verif.Generated.LockShape
import Verif.Conc.WrapperTable
/-!
# The proof obligation over the generated table: every public method of every container is `wellLocked`

`WrapperTable.lean` is imported only so that building this target also checks `wrapper_faithful`, an
obligation of the same property.
-/
namespace Verif.Conc

/-- re-checked on every run against the table regenerated from /repo's current headers -/
theorem table_wellLocked : ∀ m ∈ Generated.table, m.wellLocked Generated.table = true := by decide +kernel

/-- non-vacuity: all ten classes are present -/
theorem table_classes :
    ((List.range 10).all (fun c => Generated.table.any (fun m => m.cls == c))) = true ∧
    Generated.clsNames.length = 10 := by
  decide +kernel

end Verif.Conc
