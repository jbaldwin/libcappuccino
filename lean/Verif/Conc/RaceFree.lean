import Verif.Conc.Guarded
/-!
# One critical section per method: `Method.wellLocked`

`wellLocked` (the shape C06 asks for: `quiet* ; acq ; body ; rel ; quiet*`, no lock operation and nothing
unknown in the body) implies `guarded` (`wellLocked_guarded`), so a table all of whose methods are well
locked has every property of `Guarded.lean`.
-/
namespace Verif.Conc

theorem quiet_iff {mutc : List Nat} {k : List Tok} :
    quiet mutc k = true ↔ hasLock k = false ∧ hasUnknown k = false ∧ ∀ c ∈ accessed k, c ∉ mutc := by
  simp only [quiet, Bool.and_eq_true, Bool.not_eq_true', List.all_eq_true, List.contains_eq_mem,
    decide_eq_false_iff_not, and_assoc]

theorem quiet_nil (mutc : List Nat) : quiet mutc [] = true :=
  quiet_iff.2 ⟨hasLock_nil, hasUnknown_nil, by rw [accessed_nil]; exact fun _ h => nomatch h⟩

theorem quiet_append_iff {mutc : List Nat} {a b : List Tok} :
    quiet mutc (a ++ b) = true ↔ quiet mutc a = true ∧ quiet mutc b = true := by
  simp only [quiet_iff, hasLock_append, hasUnknown_append, accessed_append, Bool.or_eq_false_iff,
    List.mem_append]
  constructor
  · rintro ⟨⟨h1, h2⟩, ⟨h3, h4⟩, h5⟩
    exact ⟨⟨h1, h3, fun c hc => h5 c (.inl hc)⟩, h2, h4, fun c hc => h5 c (.inr hc)⟩
  · rintro ⟨⟨h1, h3, h5⟩, h2, h4, h6⟩
    exact ⟨⟨h1, h2⟩, ⟨h3, h4⟩, fun c hc => hc.elim (h5 c) (h6 c)⟩

theorem quiet_tail {mutc : List Nat} {x : Tok} {k : List Tok} (h : quiet mutc (x :: k) = true) :
    quiet mutc k = true :=
  (quiet_append_iff (a := [x]).1 h).2

theorem quiet_hasLock {mutc : List Nat} {k : List Tok} (h : quiet mutc k = true) :
    hasLock k = false :=
  (quiet_iff.1 h).1

theorem dropWhile_eq_cons {α : Type} {p : α → Bool} {l : List α} {x : α} {r : List α}
    (h : l.dropWhile p = x :: r) : p x = false ∧ l = l.takeWhile p ++ x :: r := by
  refine ⟨?_, by rw [← h, List.takeWhile_append_dropWhile]⟩
  have := List.head?_dropWhile_not p l
  rw [h] at this
  exact this

theorem splitCS_eq {ts pre body post : List Tok} (h : splitCS ts = some (pre, body, post)) :
    ts = pre ++ .acq :: (body ++ .rel :: post) := by
  unfold splitCS at h
  simp only at h
  split at h
  · cases h
  · rename_i x afterAcq hd
    split at h
    · cases h
    · rename_i y bodyR hr
      obtain ⟨hx, hts⟩ := dropWhile_eq_cons hd
      obtain ⟨hy, hrev⟩ := dropWhile_eq_cons hr
      have hx' : x = .acq := by cases x <;> simp at hx ⊢
      have hy' : y = .rel := by cases y <;> simp at hy ⊢
      subst hx' hy'
      cases h
      -- `hrev` splits the reversed rest; reversed back it is `body ++ rel :: post`
      have hafter := List.reverse_eq_iff.1 hrev
      rw [List.reverse_append, List.reverse_cons, List.append_assoc] at hafter
      exact hts.trans (congrArg (_ ++ Tok.acq :: ·) hafter)

theorem guarded_of_quiet {mutc : List Nat} {k : List Tok} (hq : quiet mutc k = true) (h : Bool) :
    guarded mutc h k = some h :=
  have hq := quiet_iff.1 hq
  guarded_of_lockfree mutc k h hq.1 hq.2.1 fun _ => hq.2.2

theorem wellLocked_cases {table : List Method} {m : Method} (h : m.wellLocked table = true) :
    quiet (mutableOf table m.cls) m.body = true ∨
    ∃ pre body post, splitCS m.body = some (pre, body, post) ∧
      m.body = pre ++ .acq :: (body ++ .rel :: post) ∧
      quiet (mutableOf table m.cls) pre = true ∧ quiet (mutableOf table m.cls) post = true ∧
      hasLock body = false ∧ hasUnknown body = false := by
  unfold Method.wellLocked at h
  simp only [Bool.or_eq_true] at h
  rcases h with h | h
  · exact .inl h
  · split at h
    · rename_i pre body post hs
      simp only [Bool.and_eq_true, Bool.not_eq_true'] at h
      exact .inr ⟨pre, body, post, hs, splitCS_eq hs, h.1.1.1, h.1.1.2, h.1.2, h.2⟩
    · cases h

/-- **One critical section per method is a special case of `guarded`.** -/
theorem wellLocked_guarded {table : List Method} {m : Method}
    (h : m.wellLocked table = true) : m.guarded table = true := by
  unfold Method.guarded
  rw [beq_iff_eq]
  rcases wellLocked_cases h with hq | ⟨pre, body, post, _, heq, hpre, hpost, hl, hu⟩
  · exact guarded_of_quiet hq false
  · -- the scan keeps `false` over `pre`, is set by `acq`, keeps `true` over `body`, is reset by `rel`
    rw [heq, guarded_append, guarded_of_quiet hpre, Option.bind_some, guarded_cons, guardedTok_acq]
    simp only [Bool.false_eq_true, if_false, Option.bind_some]
    rw [guarded_append, guarded_of_lockfree _ body true hl hu (by intro hh; cases hh),
      Option.bind_some, guarded_cons, guardedTok_rel]
    simp only [if_true, Option.bind_some]
    exact guarded_of_quiet hpost false

section Main
variable {table : List Method} {cls : Nat}

theorem guarded_of_wellLocked (hwl : ∀ m ∈ table, m.cls = cls → m.wellLocked table = true) :
    ∀ m ∈ table, m.cls = cls → m.guarded table = true :=
  fun m hm hc => wellLocked_guarded (hwl m hm hc)

theorem access_under_lock (hwl : ∀ m ∈ table, m.cls = cls → m.wellLocked table = true)
    {s : State} (hr : Reachable table cls s) {t : Tid} {c : Nat}
    (hnext : s.next t = some (.rd c) ∨ s.next t = some (.wr c))
    (hc : c ∈ mutableOf table cls) : s.lock = some t :=
  guarded_access_under_lock (guarded_of_wellLocked hwl) hr hnext hc

theorem race_free (hwl : ∀ m ∈ table, m.cls = cls → m.wellLocked table = true)
    {s : State} (hr : Reachable table cls s) {t u : Tid} (htu : t ≠ u) {a b : Tok}
    (ha : s.next t = some a) (hb : s.next u = some b) : ¬ conflict a b :=
  guarded_race_free (guarded_of_wellLocked hwl) hr htu ha hb

/-- so the unconditional `rel` step of the machine only ever frees the lock of the thread executing it -/
theorem rel_by_holder (hwl : ∀ m ∈ table, m.cls = cls → m.wellLocked table = true)
    {s : State} (hr : Reachable table cls s) {t : Tid} (hnext : s.next t = some .rel) :
    s.lock = some t :=
  guarded_rel_by_holder (guarded_of_wellLocked hwl) hr hnext

theorem no_unknown (hwl : ∀ m ∈ table, m.cls = cls → m.wellLocked table = true)
    {s : State} (hr : Reachable table cls s) (t : Tid) (str : String) :
    s.next t ≠ some (.unknown str) :=
  guarded_no_unknown (guarded_of_wellLocked hwl) hr t str

theorem cs_no_overlap (hwl : ∀ m ∈ table, m.cls = cls → m.wellLocked table = true)
    {s : State} (hr : Reachable table cls s) {t u : Tid} (ht : s.inCS t) (hu : s.inCS u) :
    t = u :=
  guarded_cs_no_overlap (guarded_of_wellLocked hwl) hr ht hu

theorem happens_before (hwl : ∀ m ∈ table, m.cls = cls → m.wellLocked table = true)
    {s : State} {tr1 tr2 tr3 : List (Tid × Ev)} {t u : Tid} {a b : Tok}
    (hex : Exec table cls State.init (tr1 ++ (t, .tok a) :: (tr2 ++ (u, .tok b) :: tr3)) s)
    (htu : t ≠ u) (hab : conflict a b) :
    ∃ p q r, tr2 = p ++ (t, .tok .rel) :: (q ++ (u, .tok .acq) :: r) :=
  guarded_happens_before (guarded_of_wellLocked hwl) hex htu hab

end Main

/-! ## The phases of a thread of a well-locked table

A sharper description of a state when every method has exactly one critical section: the lock holder is in
the phase `Inside`, every other thread in a phase `Outside`.  Proved: `Inv` is kept by the steps that leave
the lock alone.  That it holds of every reachable state is not proved; the theorems above rest on the
weaker `GInv` of `Guarded.lean` and do not need it. -/

/-- `quiet`: a method without critical section, or the part after the release -/
inductive Outside (mutc : List Nat) : Option (List Tok) → Prop
  | idle : Outside mutc none
  | quiet {k : List Tok} (h : quiet mutc k = true) : Outside mutc (some k)
  | before {k pre body post : List Tok} (heq : k = pre ++ .acq :: (body ++ .rel :: post))
      (hpre : Verif.Conc.quiet mutc pre = true) (hl : hasLock body = false)
      (hu : hasUnknown body = false) (hpost : Verif.Conc.quiet mutc post = true) :
      Outside mutc (some k)

/-- the rest of the critical section (loops possibly unfolded), the release, then quiet tokens -/
inductive Inside (mutc : List Nat) : Option (List Tok) → Prop
  | mk {k body post : List Tok} (heq : k = body ++ .rel :: post) (hl : hasLock body = false)
      (hu : hasUnknown body = false) (hpost : quiet mutc post = true) : Inside mutc (some k)

theorem Outside.tail {mutc : List Nat} {x : Tok} {k : List Tok}
    (h : Outside mutc (some (x :: k))) (hx : x ≠ .acq) : Outside mutc (some k) := by
  cases h with
  | quiet hq => exact .quiet (quiet_tail hq)
  | @before _ pre body post heq hpre hl hu hpost =>
    cases pre with
    | nil => exact absurd (List.cons.inj heq).1 hx
    | cons a pre' =>
      obtain ⟨rfl, rfl⟩ := List.cons.inj heq
      exact .before rfl (quiet_tail hpre) hl hu hpost

theorem Inside.tail {mutc : List Nat} {x : Tok} {k : List Tok}
    (h : Inside mutc (some (x :: k))) (hx : x ≠ .rel) : Inside mutc (some k) := by
  cases h with
  | @mk _ body post heq hl hu hpost =>
    cases body with
    | nil => exact absurd (List.cons.inj heq).1 hx
    | cons a body' =>
      obtain ⟨rfl, rfl⟩ := List.cons.inj heq
      rw [hasLock_cons_eq_false] at hl
      rw [hasUnknown_cons, Bool.or_eq_false_iff] at hu
      exact .mk rfl hl.2 hu.2 hpost

structure Inv (table : List Method) (cls : Nat) (s : State) : Prop where
  inside : ∀ t, s.lock = some t → Inside (mutableOf table cls) (s.cont t)
  outside : ∀ t, s.lock ≠ some t → Outside (mutableOf table cls) (s.cont t)
  wr : ∀ t k, s.cont t = some k → ∀ c ∈ written k, c ∈ mutableOf table cls

theorem Inv.update {table : List Method} {cls : Nat} {s : State} {t : Tid}
    {v : Option (List Tok)} (hinv : Inv table cls s)
    (hin : s.lock = some t → Inside (mutableOf table cls) (s.cont t) →
      Inside (mutableOf table cls) v)
    (hout : s.lock ≠ some t → Outside (mutableOf table cls) (s.cont t) →
      Outside (mutableOf table cls) v)
    (hwr : ∀ k, v = some k → ∀ c ∈ written k, c ∈ mutableOf table cls) :
    Inv table cls ⟨s.lock, upd s.cont t v⟩ where
  inside := forall_upd (fun u c => s.lock = some u → Inside (mutableOf table cls) c)
    (fun hu => hin hu (hinv.inside t hu)) (fun u _ => hinv.inside u)
  outside := forall_upd (fun u c => s.lock ≠ some u → Outside (mutableOf table cls) c)
    (fun hu => hout hu (hinv.outside t hu)) (fun u _ => hinv.outside u)
  wr := forall_upd (fun _ c => ∀ k, c = some k → ∀ c ∈ written k, c ∈ mutableOf table cls)
    hwr (fun u _ => hinv.wr u)

theorem Inv.advance {table : List Method} {cls : Nat} {s : State} {t : Tid} {x : Tok}
    {k : List Tok} (hinv : Inv table cls s) (h : s.cont t = some (x :: k)) (h1 : x ≠ .acq)
    (h2 : x ≠ .rel) : Inv table cls ⟨s.lock, upd s.cont t (some k)⟩ := by
  refine hinv.update ?_ ?_ ?_
  · intro _ hi; rw [h] at hi; exact hi.tail h2
  · intro _ ho; rw [h] at ho; exact ho.tail h1
  · intro k' hk' c hc; cases hk'; exact hinv.wr t _ h c (written_tail_sub hc)

end Verif.Conc
