import Verif.Proofs.Twin
import Verif.Properties
/-!
# The eager-TTL containers (`ut_map` / `ut_set`) at the level of whole public calls: C18 and C04

Their per-call prologue purges the expired prefix, so it is not trivial; both properties turn on what it
leaves behind.
-/
namespace Verif
open Verif.Spec

/-! ## C18 for ut_map / ut_set

Every single call after the first finds a state on which the prologue is the identity (`Core.PreStable`,
`Core.C18_general`), provided the TTL is positive. -/

namespace UtMap

/-- `0 < s.ttl`: a new write will be strictly before its deadline too -/
def Live (now : Time) (s : UtMapState) : Prop := 0 < s.ttl ∧ ∀ e ∈ s.tq, now < e.dl

theorem purge_live {l : List Entry} {now : Time} (h : ∀ e ∈ l, now < e.dl) : purge l now = l := by
  cases l with
  | nil => rfl
  | cons e l => exact purge_cons_gt (Nat.not_le.mpr (h e List.mem_cons_self))

theorem purge_purge {l : List Entry} (hs : List.Pairwise (fun x y => x.dl ≤ y.dl) l) (now : Time) :
    purge (purge l now) now = purge l now :=
  have _ := hs  -- `hs` is not used
  purge_purge_of_le l (Nat.le_refl now)

theorem live_pre {s : UtMapState} {now : Time} (hs : List.Pairwise (fun x y => x.dl ≤ y.dl) s.tq)
    (httl : 0 < s.ttl) : Live now (core.pre s now) := by
  refine ⟨httl, fun e he => ?_⟩
  change e ∈ purge s.tq now at he
  rw [purge_eq_filter hs] at he
  exact of_decide_eq_true (List.mem_filter.mp he).2

theorem Live.subset {now : Time} {s : UtMapState} (hs : Live now s) {l : List Entry}
    (hl : ∀ e ∈ l, e ∈ s.tq) : Live now { s with tq := l } :=
  ⟨hs.1, fun e he => hs.2 e (hl e he)⟩

theorem Live.snoc {now : Time} {s : UtMapState} (hs : Live now s) {e' : Entry}
    (hd : e'.dl = now + s.ttl) : Live now { s with tq := s.tq ++ [e'] } := by
  refine ⟨hs.1, fun e he => ?_⟩
  rcases List.mem_append.mp he with he | he
  · exact hs.2 e he
  · rw [List.mem_singleton.mp he, hd]; exact Nat.lt_add_of_pos_right hs.1

theorem preStable (now : Time) : core.PreStable now (Live now) where
  pre_id s hs := by
    show ({ s with tq := purge s.tq now } : UtMapState) = s
    rw [purge_live hs.2]
  insert1 s k v a ttl hs := by
    show Live now (UtMap.insert1 s now k v a).1
    unfold UtMap.insert1
    split
    · split
      · exact (hs.subset fun _ => mem_of_mem_delE).snoc rfl
      · exact hs
    · split
      · exact hs.snoc rfl
      · exact hs
  find1 s k peek hs := hs
  erase1 s k hs := by
    show Live now (UtMap.erase1 s k).1
    unfold UtMap.erase1
    split
    · exact hs.subset fun _ => mem_of_mem_delE
    · exact hs

end UtMap

/-- C18 for ut_map: a non-empty range call equals its single calls in order, provided the TTL is positive
(with TTL 0 a just-written entry is already expired and the single calls purge each other's writes:
known finding KF1) -/
theorem C18_utmap (s : UtMapState) (t now : Time) (op : Op) (hinv : UtMap.Inv t s) (ht : t ≤ now)
    (httl : 0 < s.ttl) (hne : singles op ≠ []) :
    (UtMap.core.run s ((singles op).map (fun o => (now, o)))).1 = (UtMap.core.step s now op).1 ∧
    aggregate op (UtMap.core.run s ((singles op).map (fun o => (now, o)))).2 = (UtMap.core.step s now op).2 :=
  have _ := ht  -- `ht` is not used
  Core.C18_general (UtMap.preStable now) s (UtMap.live_pre hinv.sorted httl) op (fun h => absurd h hne)

/-! ## C04 for any container with the eager prologue

`Spec.lookup_hit_is_last_write` already says that a lookup hit reports the latest write.  That it does so
strictly before the deadline follows from the shape of a history alone: a lookup atom comes after the
prologue of its call, at the same clock reading, with only lookups in between (`Core.look_after_pre`); the
eager prologue leaves only live entries (`Spec.pre_fresh`) and an eager lookup changes nothing. -/

namespace Spec

theorem look_eager {cap : Nat} {a a' : A} {now : Time} {k : Key} {pk : Bool} {r : Option (Val × Nat)}
    (hs : AStep .eager cap a now (.look k pk r) a') : a' = a := by
  cases hk : a.get k with
  | none => exact ((AStep.look_miss hk).mp hs).2
  | some y => exact ((AStep.look_hit hk (fun h => Flavor.noConfusion h.1)).mp hs).2

theorem looks_eager {cap : Nat} {a b : A} {ls : List (Time × Atom)}
    (hl : ∀ y ∈ ls, ∃ k pk r, y.2 = Atom.look k pk r) (hr : ARun .eager cap a ls b) : b = a := by
  induction hr with
  | nil => rfl
  | cons hs _ ih =>
    obtain ⟨k, pk, r, e⟩ := hl _ List.mem_cons_self
    cases e
    rw [ih fun y hy => hl y (List.mem_cons_of_mem _ hy), look_eager hs]

end Spec

namespace Core
variable {σ : Type} (c : Core σ)

theorem C04_eager {cap : Nat} {b : A} (s : σ) (ops : List (Time × Op))
    (hr : ARun .eager cap A.empty (c.runA s ops).2.2 b)
    (p q : List (Time × Atom)) (now : Time) (k : Key) (pk : Bool) (v : Val) (n : Nat)
    (hsplit : (c.runA s ops).2.2 = p ++ (now, .look k pk (some (v, n))) :: q) :
    ∃ d, lastWrite p k = some (v, d) ∧ now < d := by
  rw [hsplit] at hr
  obtain ⟨a, a', hp, hs, hc, -⟩ := step_of_run hr
  obtain ⟨d, hk, -⟩ := served_is_live hs rfl
  refine ⟨d, hc k _ hk, ?_⟩
  obtain ⟨p0, ls, e, hl⟩ := c.look_after_pre hsplit
  rw [e] at hp
  obtain ⟨a0, -, h2⟩ := hp.split
  obtain ⟨a1, hpre, h3⟩ := h2.cons_inv
  rw [looks_eager hl h3] at hk
  exact pre_fresh hpre k _ hk

end Core

/-- **C04 for ut_map / ut_set** (eager flavor): in every history with non-decreasing clock from the
fresh map, every lookup atom that reports a value does so strictly before the deadline of the
key's latest successful write. -/
theorem C04_utmap (ttlMs : Nat) (ops : List (Time × Op)) (t0 : Time) (ht : TimesFrom t0 ops)
    (p q : List (Time × Spec.Atom)) (now : Time) (k : Key) (pk : Bool) (v : Val) (n : Nat)
    (hsplit : (utmapV ttlMs).history ops = p ++ (now, .look k pk (some (v, n))) :: q) :
    ∃ d, Spec.lastWrite p k = some (v, d) ∧ now < d :=
  UtMap.core.C04_eager (UtMap.init ttlMs) ops ((utmapV ttlMs).history_is_run ops t0 ht) p q now k pk v n hsplit

end Verif
