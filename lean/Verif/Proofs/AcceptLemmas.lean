import Verif.Accept
import Verif.ListLemmas
/-!
# Lists of entries as the acceptor edits them

`put` places an entry in the sense of `ListLemmas.lean` (`put_perm`) and keeps the list sorted by key (`insSorted_cons`:
one round of its insertion).  Also `mem_dedup` and `mapM_option_some` for the acceptor's candidate lists, and
`Spec.ARun.append` / `single` restated in this namespace.
-/
namespace Verif.Accept
open Verif Verif.Proto Verif.Spec

abbrev Sorted (l : List Entry) : Prop := l.Pairwise (fun a b => a.key < b.key)

theorem Sorted.nodup {l : List Entry} (h : Sorted l) : (keys l).Nodup := by
  unfold keys List.Nodup
  rw [List.pairwise_map]
  exact h.imp (fun hab => Nat.ne_of_lt hab)

theorem Sorted.delE {l : List Entry} (h : Sorted l) (k : Key) : Sorted (delE l k) :=
  List.Pairwise.filter _ h

theorem insSorted_cons (e y : Entry) (ys : List Entry) :
    insSorted e (y :: ys) = if e.key ≤ y.key then e :: y :: ys else y :: insSorted e ys := rfl

theorem insSorted_perm (e : Entry) (l : List Entry) : (insSorted e l).Perm (e :: l) := by
  induction l with
  | nil => exact List.Perm.refl _
  | cons y ys ih =>
    rw [insSorted_cons]
    split
    · exact List.Perm.refl _
    · exact (ih.cons y).trans (List.Perm.swap e y ys)

theorem mem_insSorted {e x : Entry} {l : List Entry} : x ∈ insSorted e l ↔ x = e ∨ x ∈ l := by
  rw [(insSorted_perm e l).mem_iff, List.mem_cons]

theorem put_perm (l : List Entry) (e : Entry) : (put l e).Perm (e :: delE l e.key) := insSorted_perm e _

theorem getE_insSorted (e : Entry) (k : Key) (l : List Entry) :
    getE (insSorted e l) k = if e.key = k then some e else getE l k := by
  induction l with
  | nil => exact getE_cons e [] k
  | cons y ys ih =>
    rw [insSorted_cons]
    by_cases h : e.key ≤ y.key
    · rw [if_pos h, getE_cons]
    · rw [if_neg h, getE_cons, ih, getE_cons]
      by_cases hy : y.key = k
      · have : ¬ e.key = k := fun he => h (by rw [he, hy]; exact Nat.le_refl _)
        rw [if_pos hy, if_neg this, if_pos hy]
      · rw [if_neg hy, if_neg hy]

theorem Sorted.insSorted {e : Entry} {l : List Entry} (hs : Sorted l) (hne : ∀ x ∈ l, x.key ≠ e.key) :
    Sorted (insSorted e l) := by
  induction l with
  | nil => exact List.pairwise_singleton _ _
  | cons y ys ih =>
    rw [insSorted_cons]
    have hs' := List.pairwise_cons.mp hs
    by_cases h : e.key ≤ y.key
    · rw [if_pos h]
      refine List.pairwise_cons.mpr ⟨?_, hs⟩
      intro z hz
      have hey : e.key < y.key :=
        Nat.lt_of_le_of_ne h (fun hh => hne y (List.mem_cons_self ..) hh.symm)
      rcases List.mem_cons.mp hz with hz | hz
      · rw [hz]; exact hey
      · exact Nat.lt_trans hey (hs'.1 z hz)
    · rw [if_neg h]
      refine List.pairwise_cons.mpr ⟨?_, ih hs'.2 (fun x hx => hne x (List.mem_cons_of_mem _ hx))⟩
      intro z hz
      rcases mem_insSorted.mp hz with hz | hz
      · rw [hz]; exact Nat.lt_of_not_le h
      · exact hs'.1 z hz

theorem Sorted.put {l : List Entry} (h : Sorted l) (e : Entry) : Sorted (put l e) := by
  unfold Accept.put
  apply Sorted.insSorted (h.delE _)
  intro x hx
  simpa using (List.mem_filter.mp hx).2

theorem length_put_new {l : List Entry} {e : Entry} (h : getE l e.key = none) :
    (put l e).length = l.length + 1 := length_place_new (put_perm l e) h

theorem length_put_old {l : List Entry} (hn : (keys l).Nodup) {e x : Entry} (h : getE l e.key = some x) :
    (put l e).length = l.length := length_place_old hn (put_perm l e) h

theorem length_put_evict {l : List Entry} (hn : (keys l).Nodup) {e w : Entry} (hw : w ∈ l) (h : getE l e.key = none) :
    (put (delE l w.key) e).length = l.length := by
  rw [length_put_new, length_delE_of_getE hn (getE_of_mem hn hw)]
  rw [getE_eq_none_iff, mem_keys_delE]
  exact fun hh => getE_eq_none_iff.mp h hh.1

theorem mem_put {l : List Entry} {e x : Entry} (h : x ∈ put l e) : x ∈ l ∨ x = e :=
  (mem_place (put_perm l e) h).symm

/-- no hypothesis on `l`: a sorted insertion goes in front of every entry with its key -/
theorem absOf_put (l : List Entry) (e : Entry) :
    (absOf (put l e)).get = (absOf l).get.set e.key (e.val, e.dl) := by
  have : (absOf (put l e)).get = (absOf (e :: delE l e.key)).get :=
    funext fun k => by rw [absOf_get, put, getE_insSorted, ← getE_cons, ← absOf_get]
  rw [this, absOf_cons, absOf_delE, AMap.set_del]

theorem mem_dedup {α : Type} [DecidableEq α] {x : α} {l : List α} : x ∈ dedup l ↔ x ∈ l := by
  induction l with
  | nil => exact Iff.rfl
  | cons y ys ih =>
    show x ∈ (if y ∈ ys then dedup ys else y :: dedup ys) ↔ _
    by_cases hy : y ∈ ys
    · rw [if_pos hy, ih, List.mem_cons]
      exact ⟨Or.inr, fun h => h.elim (fun h => h ▸ hy) id⟩
    · rw [if_neg hy, List.mem_cons, ih, List.mem_cons]

theorem mapM_option_some {α β : Type} {f : α → Option β} {l : List α} {r : List β} (h : l.mapM f = some r) :
    (∀ x ∈ l, ∃ y ∈ r, f x = some y) ∧ (∀ y ∈ r, ∃ x ∈ l, f x = some y) := by
  induction l generalizing r with
  | nil =>
    cases h
    exact ⟨fun _ hx => absurd hx List.not_mem_nil, fun _ hy => absurd hy List.not_mem_nil⟩
  | cons a l ih =>
    rw [List.mapM_cons] at h
    obtain ⟨b, hfa, h⟩ := Option.bind_eq_some_iff.mp h
    obtain ⟨bs, hl, h⟩ := Option.bind_eq_some_iff.mp h
    cases h
    obtain ⟨h1, h2⟩ := ih hl
    refine ⟨fun x hx => ?_, fun y hy => ?_⟩
    · rcases List.mem_cons.mp hx with rfl | hx
      · exact ⟨b, List.mem_cons_self .., hfa⟩
      · obtain ⟨y, hy, hfy⟩ := h1 x hx
        exact ⟨y, List.mem_cons_of_mem _ hy, hfy⟩
    · rcases List.mem_cons.mp hy with rfl | hy
      · exact ⟨a, List.mem_cons_self .., hfa⟩
      · obtain ⟨x, hx, hfx⟩ := h2 y hy
        exact ⟨x, List.mem_cons_of_mem _ hx, hfx⟩

theorem ARun.append {fl : Flavor} {cap : Nat} {a b c : A} {t1 t2 : List (Time × Atom)}
    (h1 : ARun fl cap a t1 b) (h2 : ARun fl cap b t2 c) : ARun fl cap a (t1 ++ t2) c :=
  Spec.ARun.append h1 h2

theorem ARun.single {fl : Flavor} {cap : Nat} {a b : A} {now : Time} {x : Atom}
    (h : AStep fl cap a now x b) : ARun fl cap a [(now, x)] b :=
  Spec.ARun.single h

end Verif.Accept
