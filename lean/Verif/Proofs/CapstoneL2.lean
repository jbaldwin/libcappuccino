import Verif.CheckL2
import Verif.Proofs.CapstoneOrder
import Verif.Proofs.L2.Slot

/-!
# From "L2 OK" to what was observed

What `Proofs/CapstoneOrder.lean` does for the policy judge, for the structural judge `CheckL2.check`.

`CheckL2.check cfg evs sts = some (none, n)`: the slot/iterator-level model, replayed over the instance-0 calls, never
reaches undefined behaviour, returns the recorded outputs and prints the recorded dumps (`l2_transfer`,
`l2_transfer_dumps`); with `L2.Slot.refines_l1` the recorded outputs are those of the L1 model as well
(`l2_lru_outputs`, `l2_mru_outputs`).  `Example.logD_checked` runs the judge on the log of `CapstoneOrder`'s example
with one recorded dump.
-/
namespace Verif.CapstoneOrder
open Verif Verif.Proto Verif.Spec Verif.Check Verif.CheckL2 Verif.Accept

def runL2 (m : L2S) : List (Time × Op) → L2S
  | [] => m
  | (t, op) :: rest => runL2 (m.step t op).1 rest

theorem runL2_append (m : L2S) (p q : List (Time × Op)) : runL2 m (p ++ q) = runL2 (runL2 m p) q := by
  induction p generalizing m with
  | nil => rfl
  | cons x p ih => obtain ⟨t, op⟩ := x; exact ih (m.step t op).1

/-- the events of instance 0 — the ones the structural tier replays -/
def inst0 (evs : List Event) : List Event := evs.filter (fun e => e.inst == 0)

/-- the dump the structural tier compares event `i` with (the first one the harness printed for it) -/
def dumpAt (sts : List (Nat × String)) (i : Nat) : Option String := (sts.find? (fun x => x.1 == i)).map (·.2)

/-- what `CheckL2.loop` tests at one event, `m` being the L2 model state when the call starts and `st` the dump
recorded after the call, if any -/
def MatchesL2 (m : L2S) (e : Event) (st : Option String) : Prop :=
  (m.step e.now e.op).1.ub = false ∧ (m.step e.now e.op).2 = e.out ∧
  ∀ d, st = some d → d = (m.step e.now e.op).1.dump

theorem l2Loop_cons_eq_none {m : L2S} {e : Event} {idx : Nat} {st : Option String}
    {rest : List (Event × Nat × Option String)} :
    CheckL2.loop m ((e, idx, st) :: rest) = none ↔
      MatchesL2 m e st ∧ CheckL2.loop (m.step e.now e.op).1 rest = none := by
  -- one round of `CheckL2.loop`, by `show`: `simp only [CheckL2.loop]` would derive its equation lemmas in this module
  cases st with
  | none =>
    show (if (m.step e.now e.op).1.ub then _ else if (m.step e.now e.op).2 ≠ e.out then _ else
      CheckL2.loop (m.step e.now e.op).1 rest) = none ↔ _
    simp only [MatchesL2, ite_some_eq_none, Decidable.not_not, Bool.not_eq_true, and_assoc,
      reduceCtorEq, false_implies, implies_true, true_and]
  | some d =>
    show (if (m.step e.now e.op).1.ub then _ else if (m.step e.now e.op).2 ≠ e.out then _ else
      if d == (m.step e.now e.op).1.dump then CheckL2.loop (m.step e.now e.op).1 rest else _) = none ↔ _
    simp only [MatchesL2, ite_some_eq_none, ite_else_some_eq_none, Decidable.not_not,
      Bool.not_eq_true, beq_iff_eq, Option.some.injEq, forall_eq', and_assoc]

/-- the list `CheckL2.check` replays: instance-0 events with their index in the script and their dump -/
def tagged (sts : List (Nat × String)) (l : List (Event × Nat)) : List (Event × Nat × Option String) :=
  l.filterMap (fun (e, i) => if e.inst == 0 then some (e, i, dumpAt sts i) else none)

theorem l2Loop_none {sts : List (Nat × String)} {evs : List Event} {n : Nat} {m : L2S}
    (h : CheckL2.loop m (tagged sts (evs.zipIdx n)) = none) {i : Nat} {e : Event} (hi : evs[i]? = some e)
    (h0 : e.inst = 0) : MatchesL2 (runL2 m (opsOf (inst0 (evs.take i)))) e (dumpAt sts (n + i)) := by
  induction evs generalizing n m i with
  | nil => cases hi
  | cons e0 es ih =>
    rw [List.zipIdx_cons, tagged, List.filterMap_cons] at h
    cases i with
    | zero =>
      cases hi
      simp only [beq_iff_eq.2 h0, if_true] at h
      exact (l2Loop_cons_eq_none.1 h).1
    | succ i =>
      rw [List.take_succ_cons, inst0, List.filter_cons, Nat.add_succ, ← Nat.succ_add]
      -- an event of another instance is skipped by the judge and by `inst0` alike
      cases hb : e0.inst == 0 with
      | true =>
        simp only [hb, if_true] at h ⊢
        exact ih (l2Loop_cons_eq_none.1 h).2 hi
      | false =>
        simp only [hb, Bool.false_eq_true, if_false] at h ⊢
        exact ih h hi

/-- If the structural tier accepts, then at every call of instance 0 the L2 model, replayed from the freshly
constructed container over the instance-0 calls before it, does not reach undefined behaviour (`end()` dereferenced,
`begin()` decremented, index out of range, stale hash iterator), returns the output the C++ container returned, and,
if the harness printed the private structure after the call, prints exactly that dump.  No hypothesis on the
configuration is needed: the check tests `ub` itself. -/
theorem l2_transfer (cfg : Cfg) (evs : List Event) (sts : List (Nat × String)) (n : Nat)
    (h : CheckL2.check cfg evs sts = some (none, n)) :
    ∃ m0, L2S.init cfg = some m0 ∧ ∀ i e, evs[i]? = some e → e.inst = 0 →
      MatchesL2 (runL2 m0 (opsOf (inst0 (evs.take i)))) e (dumpAt sts i) := by
  unfold CheckL2.check at h
  cases hm : L2S.init cfg with
  | none => rw [hm] at h; cases h
  | some m0 =>
    rw [hm] at h
    have hl : CheckL2.loop m0 (tagged sts (evs.zipIdx 0)) = none := congrArg Prod.fst (Option.some.inj h)
    refine ⟨m0, rfl, fun i e hi h0 => ?_⟩
    have := l2Loop_none hl hi h0
    rwa [Nat.zero_add] at this

theorem dumpAt_of_mem {sts : List (Nat × String)} (hn : (sts.map (·.1)).Nodup) {i : Nat} {d : String}
    (h : (i, d) ∈ sts) : dumpAt sts i = some d := by
  induction sts with
  | nil => cases h
  | cons x sts ih =>
    obtain ⟨hx, hn'⟩ := List.nodup_cons.1 hn
    unfold dumpAt
    rw [List.find?_cons]
    rcases List.mem_cons.1 h with rfl | h'
    · simp only [beq_self_eq_true, Option.map_some]
    · have hne : x.1 ≠ i := fun he => hx (List.mem_map.2 ⟨(i, d), h', he.symm⟩)
      rw [beq_eq_false_iff_ne.2 hne]
      exact ih hn' h'

/-- `l2_transfer` speaks of the first dump recorded for an event (`dumpAt`); if no two recorded dumps carry the same
event index, that is every dump the harness printed after an event of instance 0. -/
theorem l2_transfer_dumps (cfg : Cfg) (evs : List Event) (sts : List (Nat × String)) (n : Nat)
    (h : CheckL2.check cfg evs sts = some (none, n)) (hn : (sts.map (·.1)).Nodup) :
    ∃ m0, L2S.init cfg = some m0 ∧ ∀ i d e, (i, d) ∈ sts → evs[i]? = some e → e.inst = 0 →
      d = ((runL2 m0 (opsOf (inst0 (evs.take i)))).step e.now e.op).1.dump := by
  obtain ⟨m0, hm, hall⟩ := l2_transfer cfg evs sts n h
  exact ⟨m0, hm, fun i d e hd hi h0 => (hall i e hi h0).2.2 d (dumpAt_of_mem hn hd)⟩

theorem runL2_slot (s : L2.LState) (ops : List (Time × Op)) :
    runL2 (.slot s) ops = .slot (L2.Slot.core.run s ops).1 := by
  induction ops generalizing s with
  | nil => rfl
  | cons x ops ih =>
    obtain ⟨t, op⟩ := x
    exact ih (L2.Slot.core.step s t op).1

theorem slot_out_eq (fl : L2.Flavour) (cap : Nat) (hcap : 0 < cap) (ops : List (Time × Op)) (t : Time) (op : Op) :
    (L2.Slot.core.step (L2.Slot.core.run (L2.Slot.init fl cap) ops).1 t op).2 =
    ((L2.Slot.l1core fl).step ((L2.Slot.l1core fl).run (Rec.init cap) ops).1 t op).2 := by
  have h1 := (L2.Slot.refines_l1 fl cap hcap ops).1
  have h2 := (L2.Slot.refines_l1 fl cap hcap (ops ++ [(t, op)])).1
  rw [Core.run_snoc_snd, Core.run_snoc_snd, h1] at h2
  exact List.singleton_inj.1 (List.append_cancel_left h2)

theorem l2_slot_outputs (fl : L2.Flavour) {emb : RecState → MState} (he : Emb (L2.Slot.l1core fl) emb)
    (cfg : Cfg) (hm : L2S.init cfg = some (.slot (L2.Slot.init fl cfg.cap)))
    (hinit : MState.init cfg = emb (Rec.init cfg.cap)) (hcap : 0 < cfg.cap) (evs : List Event)
    (sts : List (Nat × String)) (n : Nat) (h : CheckL2.check cfg evs sts = some (none, n))
    (i : Nat) (e : Event) (hi : evs[i]? = some e) (h0 : e.inst = 0) :
    ((runM (MState.init cfg) (opsOf (inst0 (evs.take i)))).step e.now e.op).2 = e.out := by
  obtain ⟨m0, hm', hall⟩ := l2_transfer cfg evs sts n h
  obtain ⟨_, hout, _⟩ := hall i e hi h0
  cases hm.symm.trans hm'
  rw [runL2_slot] at hout
  rw [hinit, he.runM, he.step, ← hout]
  exact (slot_out_eq fl cfg.cap hcap _ e.now e.op).symm

/-- If the structural tier accepts the log of an `lru_cache` of capacity ≥ 1, the output the C++ container returned
at every call of instance 0 is the output of the *L1* model (the one the property theorems are about): the
structural verdict alone — whose replay is on the slot/iterator-level model — implies output agreement with the
policy model. -/
theorem l2_lru_outputs (cfg : Cfg) (hk : cfg.kind = .lru) (hcap : 0 < cfg.cap) (evs : List Event)
    (sts : List (Nat × String)) (n : Nat) (h : CheckL2.check cfg evs sts = some (none, n))
    (i : Nat) (e : Event) (hi : evs[i]? = some e) (h0 : e.inst = 0) :
    ((runM (MState.init cfg) (opsOf (inst0 (evs.take i)))).step e.now e.op).2 = e.out :=
  l2_slot_outputs .lru emb_lru cfg (by simp only [L2S.init, hk]) (MState.init_lru hk) hcap evs sts n h
    i e hi h0

theorem l2_mru_outputs (cfg : Cfg) (hk : cfg.kind = .mru) (hcap : 0 < cfg.cap) (evs : List Event)
    (sts : List (Nat × String)) (n : Nat) (h : CheckL2.check cfg evs sts = some (none, n))
    (i : Nat) (e : Event) (hi : evs[i]? = some e) (h0 : e.inst = 0) :
    ((runM (MState.init cfg) (opsOf (inst0 (evs.take i)))).step e.now e.op).2 = e.out :=
  l2_slot_outputs .mru emb_mru cfg (by simp only [L2S.init, hk]) (MState.init_mru hk) hcap evs sts n h
    i e hi h0

/-! ## non-vacuity -/

namespace Example

/-- the structure dump of the `lru_cache` after event 1, as the L2 model prints it — the string
`"end=- list=1,0 size=2 used=0:10:0:0,1:11:1:1"` (`#eval dumpD`; string functions do not reduce in the kernel,
so the example names the dump by the term that computes it) -/
def dumpD : String := (runL2 (L2S.slot (L2.Slot.init .lru 2)) (opsOf (logC.take 2))).dump

def stsD : List (Nat × String) := [(1, dumpD)]

theorem logD_checked : CheckL2.check cfgC logC stsD = some (none, 1) := by
  have hl : CheckL2.loop (L2S.slot (L2.Slot.init .lru 2))
      [(evC0, 0, none), (evC1, 1, some dumpD), (evC2, 2, none), (evC3, 3, none)] = none :=
    l2Loop_cons_eq_none.2 ⟨⟨rfl, rfl, nofun⟩,
      l2Loop_cons_eq_none.2 ⟨⟨rfl, rfl, fun _ hd => (Option.some.inj hd).symm⟩,
        l2Loop_cons_eq_none.2 ⟨⟨rfl, rfl, nofun⟩,
          l2Loop_cons_eq_none.2 ⟨⟨rfl, rfl, nofun⟩, rfl⟩⟩⟩⟩
  exact congrArg (fun r => some (r, 1)) hl

example : ∃ m0, L2S.init cfgC = some m0 ∧ ∀ i e, logC[i]? = some e → e.inst = 0 →
    MatchesL2 (runL2 m0 (opsOf (inst0 (logC.take i)))) e (dumpAt stsD i) :=
  l2_transfer cfgC logC stsD 1 logD_checked

example : ((runM (MState.init cfgC) (opsOf (inst0 (logC.take 3)))).step 40 (.insert 2 12 .insertOrUpdate 0)).2
    = .bool true :=
  l2_lru_outputs cfgC rfl (by decide) logC stsD 1 logD_checked 3 evC3 rfl rfl

end Example

end Verif.CapstoneOrder

#print axioms Verif.CapstoneOrder.l2_transfer
#print axioms Verif.CapstoneOrder.l2_transfer_dumps
#print axioms Verif.CapstoneOrder.l2_lru_outputs
#print axioms Verif.CapstoneOrder.l2_mru_outputs
#print axioms Verif.CapstoneOrder.Example.logD_checked
