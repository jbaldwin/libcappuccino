import Verif.Proofs.Refine.UtMap
/-!
# C19 for ut_map / ut_set, the continuation half

`C19_utmap` shows a no-effect call at `t0` does exactly what the per-call purge does.  Here: two states
with the same purged content at `t0` return the same results for every later call (clock readings ≥ t0)
except `size()`, `empty()` and the count of `clean_expired_values()`.
-/
namespace Verif.BisimUt
open Verif

/-- `inv`, `inv'`: both states are legal ones.  Nothing below reads them: `step_utmap` needs the invariant
at the call's own clock reading and takes it as `hclock`. -/
structure Rel (t0 : Time) (s s' : UtMapState) : Prop where
  ttl : s.ttl = s'.ttl
  inv : ∃ t, UtMap.Inv t s
  inv' : ∃ t, UtMap.Inv t s'
  same : UtMap.purge s.tq t0 = UtMap.purge s'.tq t0

def sameOut : Op → Out → Out → Prop
  | .size, _, _ => True
  | .empty, _, _ => True
  | .clean, _, _ => True
  | _, a, b => a = b

theorem pre_eq {t0 now : Time} (h : t0 ≤ now) {s s' : UtMapState} (hr : Rel t0 s s') :
    UtMap.core.pre s now = UtMap.core.pre s' now := by
  show UtMapState.mk s.ttl (UtMap.purge s.tq now) = UtMapState.mk s'.ttl (UtMap.purge s'.tq now)
  rw [← UtMap.purge_purge_of_le s.tq h, ← UtMap.purge_purge_of_le s'.tq h, hr.same, hr.ttl]

theorem rel_of_eq {t0 now : Time} {s s' : UtMapState} (he : s = s') (hi : UtMap.Inv now s) :
    Rel t0 s s' := by
  subst he
  exact ⟨rfl, ⟨now, hi⟩, ⟨now, hi⟩, rfl⟩

theorem inv_step {now : Time} {s : UtMapState} (h : UtMap.Inv now s) (op : Op) :
    UtMap.Inv now (UtMap.core.step s now op).1 :=
  (UtMap.core.stepA_eq s now op).1 ▸ ((UtMap.refines 0).stepA s now op h).1

/-- **C19 (continuation), ut_map / ut_set**: one later call.  `hclock`: the clock reading is not before any
reading under which the two states were built (so that the ttl lists stay sorted). -/
theorem step_utmap (t0 now : Time) (h : t0 ≤ now) (s s' : UtMapState) (op : Op)
    (hr : Rel t0 s s') (hclock : UtMap.Inv now s ∧ UtMap.Inv now s') :
    sameOut op (UtMap.core.step s now op).2 (UtMap.core.step s' now op).2 ∧
    Rel t0 (UtMap.core.step s now op).1 (UtMap.core.step s' now op).1 ∧
    UtMap.Inv now (UtMap.core.step s now op).1 ∧ UtMap.Inv now (UtMap.core.step s' now op).1 := by
  have hi := inv_step hclock.1 op
  have hi' := inv_step hclock.2 op
  have hpre := pre_eq h hr
  cases op with
  -- the seven keyed forms see the state only through the prologue: the two runs coincide from there
  | insert _ _ _ _ | insertRange _ _ | find _ _ | findRange _ _ | findCount _ _ | erase _ | eraseRange _ =>
    refine ⟨show _ = _ from ?_, rel_of_eq ?_ hi, hi, hi'⟩ <;> simp only [Core.step, hpre]
  | clear =>
    refine ⟨rfl, rel_of_eq ?_ hi, hi, hi'⟩
    show UtMapState.mk s.ttl [] = UtMapState.mk s'.ttl []
    rw [hr.ttl]
  | clean => exact ⟨trivial, rel_of_eq hpre hi, hi, hi'⟩
  | age | updateTtl _ | capacity => exact ⟨rfl, hr, hi, hi'⟩
  | size | empty => exact ⟨trivial, hr, hi, hi'⟩

/-- a state and what a no-effect call at `t0` leaves of it (`C19_utmap`) are related -/
theorem rel_of_purge (t0 t : Time) (s : UtMapState) (hinv : UtMap.Inv t s) :
    Rel t0 s { s with tq := UtMap.purge s.tq t0 } :=
  ⟨rfl, ⟨t, hinv⟩, ⟨t, hinv.sublist (List.dropWhile_sublist _)⟩,
    (UtMap.purge_purge_of_le s.tq (Nat.le_refl t0)).symm⟩

end Verif.BisimUt

