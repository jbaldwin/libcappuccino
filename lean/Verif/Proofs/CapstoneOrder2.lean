import Verif.Proofs.CapstoneOrder

/-!
# The policy judge, continued: tlru/utlru (C10, C16), rr (C15), lfuda (C14) at event level

Setting as in `Proofs/CapstoneOrder.lean`: single-instance log accepted by `Check.l1`, every inserted key in the swept
universe (`logOk`), event `i + 1` a single `insert` that returned `true`, the `size()` recorded after event `i` equal to
the recorded `capacity()`.  Each container here needs something more than `evicting_insert_model`.

* tlru_cache / utlru_cache (`TtlKeyed`).  An expired entry that has not been reaped is resident (it counts in `size()`,
  and it is what C16 says goes first) but no sweep shows it, and sweeps carry no deadlines.  So "`k` is not resident"
  and "some / no resident entry has expired" are conditions on the replayed twin `s = tlruAfter cfg evs (i + 1)`, not
  on the recorded events (`ttl_insert_observed`).  They become conditions on the events when the clock stands still
  between events `i` and `i + 1` (`ttl_all_live_iff`: nothing resident has expired ⇔ the sweep has `size()` entries):
  the `…_sameclock` theorems.  For other clock readings these statements do not recompute deadlines from the log (as
  `Capstone.dlEv` does for the acceptor), and for utlru the TTL in force (`s.ttl`) is read off the twin, not off the
  `update_ttl` events.
* rr_cache.  The victim sits in the slot named by the next unused mirrored draw; `rr_rnd_run` counts the draws consumed
  so far (`rrDraws`: one per eviction).
* lfuda_cache.  The aging ghost compares its stamps with the clock, so these theorems assume non-decreasing recorded
  readings (`TimesFrom 0 (opsOf (evs.take …))`; `timesFrom_take` gives the prefix form from the whole log's).
-/

namespace Verif.CapstoneOrder2
open Verif Verif.Proto Verif.Spec Verif.Check Verif.Accept Verif.CapstoneOrder

/-- `find(u, peek::yes)` at clock reading `now` on the replayed twin `s` would report `u` -/
def LiveAt (s : TlruState) (now : Time) (u : Key) : Prop := ∃ en, getE s.ents u = some en ∧ now < en.dl

theorem look_isSome (s : TlruState) (now : Time) (u : Key) :
    (Tlru.look s now u).isSome = true ↔ LiveAt s now u := by
  unfold Tlru.look LiveAt
  cases hg : getE s.ents u with
  | none => simp
  | some en =>
    by_cases hd : now < en.dl
    · simp [hd]
    · simp [hd]

/-- what the transfer needs of a deadline container (tlru_cache, utlru_cache: both models run on `TlruState`) -/
structure TtlKeyed (c : Core TlruState) (cap : Nat) (s0 : TlruState) (emb : TlruState → MState) : Prop where
  emb : Emb c emb
  like : Tlru.Like c
  R : Refines c .lazy cap (fun _ => Tlru.Inv cap) Tlru.abs
  inv0 : Tlru.Inv cap s0
  ents0 : s0.ents = []
  look : ∀ s now u, c.look s now u = Tlru.look s now u
  size : ∀ s, c.size s = s.ents.length
  capacity : ∀ s, c.capacity s = s.cap

theorem ttl_tlru (cap : Nat) (h : 0 < cap) : TtlKeyed Tlru.core cap (Tlru.init cap) MState.tlru where
  emb := emb_tlru
  like := Tlru.like
  R := Tlru.refines cap
  inv0 := Tlru.inv_init h
  ents0 := rfl
  look := fun _ _ _ => rfl
  size := fun _ => rfl
  capacity := fun _ => rfl

theorem ttl_utlru (cap : Nat) (h : 0 < cap) (ttlMs : Nat) :
    TtlKeyed Utlru.core cap (Utlru.init cap ttlMs) MState.utlru where
  emb := emb_utlru
  like := Utlru.like
  R := Utlru.refines cap
  inv0 := Utlru.inv_init h ttlMs
  ents0 := rfl
  look := fun _ _ _ => rfl
  size := fun _ => rfl
  capacity := fun _ => rfl

theorem liveAt_lazy (now : Time) (y : Val × Time) : liveAt .lazy now y ↔ now < y.2 := or_iff_right (by decide)

theorem liveAt_abs (s : TlruState) (now : Time) (u : Key) :
    LiveAt s now u ↔ ∃ y, (Tlru.abs s).get u = some y ∧ liveAt .lazy now y := by
  unfold LiveAt liveAt
  show _ ↔ ∃ y, (getE s.ents u).map (fun e => (e.val, e.dl)) = some y ∧ _
  cases getE s.ents u <;> simp

theorem not_liveAt_of_expired {s : TlruState} {now : Time} {w : Key} {en : Entry} (hw : getE s.ents w = some en)
    (hd : en.dl ≤ now) : ¬ LiveAt s now w := fun ⟨en', h1, h2⟩ => by
  cases hw.symm.trans h1
  exact Nat.not_lt.2 hd h2

theorem liveAt_iff_mem {s : TlruState} (hn : (keys s.ents).Nodup) (now : Time) (u : Key) :
    LiveAt s now u ↔ u ∈ keys (s.ents.filter (fun en => decide (now < en.dl))) := by
  unfold LiveAt keys
  simp only [List.mem_map, List.mem_filter, decide_eq_true_eq]
  constructor
  · rintro ⟨en, h1, h2⟩; exact ⟨en, ⟨getE_mem h1, h2⟩, getE_key h1⟩
  · rintro ⟨en, ⟨h1, h2⟩, rfl⟩; exact ⟨en, getE_of_mem hn h1, h2⟩

/-- **The guard of C10/C16 on the recorded events**, for the model state `s` tied to event `i`: an expired, not yet
reaped entry counts in `size()` and is shown by no sweep. -/
theorem ttl_all_live_iff {c : Core TlruState} {cap : Nat} {s : TlruState} (hi : Tlru.Inv cap s) {nkeys : Nat}
    {e0 : Event} (hsw : c.sweep s e0.now nkeys = e0.obs.sweep) (hsz : s.ents.length = e0.obs.size)
    (hmem : ∀ u, u ∈ sweepKeys e0 ↔ LiveAt s e0.now u) :
    (∀ en ∈ s.ents, e0.now < en.dl) ↔ e0.obs.sweep.length = e0.obs.size := by
  -- the sweep shows the live residents, once each
  have hndL : (keys (s.ents.filter (fun en => decide (e0.now < en.dl)))).Nodup :=
    hi.nodup.sublist (List.filter_sublist.map _)
  have hlen := ((List.perm_ext_iff_of_nodup (nodup_sweepKeys hsw) hndL).2
    (fun u => (hmem u).trans (liveAt_iff_mem hi.nodup e0.now u))).length_eq
  simp only [sweepKeys, keys, List.length_map] at hlen
  rw [hlen, ← hsz, List.length_filter_eq_length_iff]
  simp only [decide_eq_true_eq]

section ttl
variable {c : Core TlruState} {cap : Nat} {s0 : TlruState} {emb : TlruState → MState} (hT : TtlKeyed c cap s0 emb)
include hT

theorem TtlKeyed.abs0 : Tlru.abs s0 = A.empty := by
  unfold Tlru.abs; rw [hT.ents0]; rfl

theorem TtlKeyed.lookAbs (s : TlruState) (now : Time) (u : Key) :
    (c.look s now u).isSome = true ↔ ∃ y, (Tlru.abs s).get u = some y ∧ liveAt .lazy now y := by
  rw [hT.look, look_isSome, liveAt_abs]

variable {cfg : Cfg} {nkeys : Nat} {evs : List Event} (hinit : MState.init cfg = emb s0)
  (hinst : ∀ e ∈ evs, e.inst = 0) (hlog : logOk nkeys evs = true) (hacc : l1 cfg nkeys evs = none)
  {i : Nat} {e0 e : Event} {k : Key} {v : Val} {a : Allow} {ttl : Nat} {s : TlruState}
include hinit hinst hlog hacc

/-- `tied_on_reference` for the deadline caches: the swept keys are the resident keys that have not expired at the
sweep's clock reading (`LiveAt`), which may be fewer than `size()` -/
theorem TtlKeyed.tied (h0 : evs[i]? = some e0) (hs : s = (c.run s0 (opsOf (evs.take (i + 1)))).1) :
    Tlru.Inv cap s ∧ c.sweep s e0.now nkeys = e0.obs.sweep ∧ s.ents.length = e0.obs.size ∧
      s.cap = e0.obs.cap ∧ ∀ u, u ∈ sweepKeys e0 ↔ LiveAt s e0.now u := by
  obtain ⟨hinv, hsw, hsz, hcap, hS0⟩ :=
    tied_on_reference hT.R hT.emb hT.lookAbs hinit hinst hlog hacc hs hT.inv0 hT.abs0 (fun _ _ _ h => h)
      (by decide) h0
  exact ⟨hinv 0, hsw, hsz, (hinv 0).cap_eq.trans hcap, fun u => (hS0 u).trans (liveAt_abs s e0.now u).symm⟩

/-- **C16 and C10 at event level, for both deadline caches.**  `s` is the model state after events `0 .. i`; the
first three conjuncts say what ties it to the log.  Event `i + 1` is a single `insert(k, v, ttl, a)` that returned
`true`, `k` is not resident in `s`, and the recorded `size()` equals the recorded `capacity()`.  Then exactly one
resident key `w ≠ k` is removed besides what expiry explains: the sweep recorded after event `i + 1` (taken at the
insert's clock reading `e.now`) shows `k` iff `D` ("the new entry's deadline is later than `e.now`" in the terms of
the one container) and exactly the keys other than `w` that are resident in `s` and live at `e.now`.

* **C16**: if `s` holds an entry with deadline `≤ e.now`, the removed entry is such an expired one, and every key
  the sweep after event `i` shows that is live at `e.now` is still shown after event `i + 1`.
* **C10**: otherwise `w` is the least recently used resident, for every annotated trace whose atoms are those of the
  recorded history of events `0 .. i`. -/
theorem ttl_insert_observed (h0 : evs[i]? = some e0) (h1 : evs[i + 1]? = some e)
    (hop : e.op = .insert k v a ttl) (hout : e.out = .bool true)
    (hs : s = (c.run s0 (opsOf (evs.take (i + 1)))).1) {D : Prop} (hD : e.now < c.dlOf s e.now ttl ↔ D)
    (hnew : k ∉ keys s.ents) (hfull : e0.obs.size = e0.obs.cap) :
    c.sweep s e0.now nkeys = e0.obs.sweep ∧ s.ents.length = e0.obs.size ∧ s.cap = e0.obs.cap ∧
    ∃ w, w ∈ keys s.ents ∧ w ≠ k ∧
      (∀ u, u ∈ sweepKeys e ↔ (u = k ∧ D) ∨ (u ≠ w ∧ LiveAt s e.now u)) ∧
      ((∃ en ∈ s.ents, en.dl ≤ e.now) →
        (∃ en, getE s.ents w = some en ∧ en.dl ≤ e.now) ∧
        ∀ u ∈ sweepKeys e0, LiveAt s e.now u → u ∈ sweepKeys e) ∧
      ((∀ en ∈ s.ents, e.now < en.dl) →
        ∀ tr : STrace TlruState, tr.atoms = (c.runA s0 (opsOf (evs.take (i + 1)))).2.2 →
          firstIn (useOrder tr) (keys s.ents) = some w) := by
  obtain ⟨hi, hsw, hsz, hcp, -⟩ := hT.tied hinit hinst hlog hacc h0 hs
  obtain ⟨tr, hrun, hat⟩ := c.run_crun s0 (opsOf (evs.take (i + 1)))
  rw [← hs] at hrun
  have hfull' : cap ≤ s.ents.length := Nat.le_of_eq <|
    calc cap = s.cap := hi.cap_eq.symm
      _ = e0.obs.cap := hcp
      _ = e0.obs.size := hfull.symm
      _ = s.ents.length := hsz.symm
  have hgk : (Tlru.abs s).get k = none := congrArg (Option.map _) (getE_eq_none_iff.2 hnew)
  obtain ⟨s', w, hstep, hw, hwk, hall, huniq⟩ :=
    evicting_insert_on_reference hT.R hT.emb hT.lookAbs hinit hinst hlog hacc hs hT.inv0 hT.abs0 (fun _ _ _ h => h)
      (by decide) hT.like.pre (fun _ => hi) h1 hop hout hgk hfull'
  have hall' : ∀ u, u ∈ sweepKeys e ↔ (u = k ∧ D) ∨ (u ≠ w ∧ LiveAt s e.now u) := fun u => by
    rw [hall, ← liveAt_abs, ← hD, liveAt_lazy]
  -- whatever key the model evicts is `w`
  have hev : ∀ w1, Evicts (keys s.ents) (keys s'.ents) k w1 → w1 = w := fun w1 h =>
    huniq w1 (isSome_map_getE.2 h.1) fun h' => h.2.2.1 (isSome_map_getE.1 h')
  refine ⟨hsw, hsz, hcp, w, isSome_map_getE.1 hw, hwk, hall', fun hexp => ?_, fun hlive tr' htr' => ?_⟩
  · obtain ⟨w2, e2, hw2, hd2, hev2, -⟩ :=
      Tlru.C16_like hT.like hT.R hT.inv0 hT.ents0 hrun hstep hnew hfull' hexp
    cases hev w2 hev2
    exact ⟨⟨e2, hw2, hd2⟩, fun u _ hu =>
      (hall' u).2 (Or.inr ⟨fun huw => not_liveAt_of_expired hw2 hd2 (huw ▸ hu), hu⟩)⟩
  · obtain ⟨w1, hfirst, hev1⟩ :=
      Tlru.C10_like hT.like hT.R hT.inv0 hT.ents0 hrun hstep hnew hfull' hlive
    cases hev w1 hev1
    rw [useOrder_congr (htr'.trans hat.symm)]
    exact hfirst

/-- **C10 for the deadline caches in terms of the two recorded sweeps**: the conclusion of `lru_victim_observed`, if
the clock has not gone back since event `i`.  The one condition left on the replayed twin is `hlive`, the guard of
C10 (the sweeps do not carry deadlines). -/
theorem ttl_lru_victim_observed (h0 : evs[i]? = some e0) (h1 : evs[i + 1]? = some e)
    (hop : e.op = .insert k v a ttl) (hout : e.out = .bool true)
    (hs : s = (c.run s0 (opsOf (evs.take (i + 1)))).1) {D : Prop} (hD : e.now < c.dlOf s e.now ttl ↔ D)
    (hnew : k ∉ sweepKeys e0) (hfull : e0.obs.size = e0.obs.cap)
    (hmono : e0.now ≤ e.now) (hlive : ∀ en ∈ s.ents, e.now < en.dl) :
    ∃ w, (∀ tr : STrace TlruState, tr.atoms = (c.runA s0 (opsOf (evs.take (i + 1)))).2.2 →
            firstIn (useOrder tr) (sweepKeys e0) = some w) ∧
      w ∈ sweepKeys e0 ∧ w ≠ k ∧
      ∀ u, u ∈ sweepKeys e ↔ (u ∈ sweepKeys e0 ∧ u ≠ w) ∨ (u = k ∧ D) := by
  obtain ⟨-, -, -, -, hS0⟩ := hT.tied hinit hinst hlog hacc h0 hs
  -- everything resident is live at both readings, so the sweep after event `i` shows the resident keys
  have hres : ∀ now, now ≤ e.now → ∀ u, LiveAt s now u ↔ u ∈ keys s.ents := fun now hle u =>
    ⟨fun h => h.elim fun en hen => mem_keys_of_getE hen.1, fun hu => by
      obtain ⟨en, hen⟩ := mem_keys_iff_getE.mp hu
      exact ⟨en, hen, Nat.lt_of_le_of_lt hle (hlive en (getE_mem hen))⟩⟩
  have hK0 : ∀ u, u ∈ sweepKeys e0 ↔ u ∈ keys s.ents := fun u => (hS0 u).trans (hres _ hmono u)
  obtain ⟨_, _, _, w, hw, hwk, hall, _, h10⟩ :=
    ttl_insert_observed hT hinit hinst hlog hacc h0 h1 hop hout hs hD
      (fun h => hnew ((hK0 k).2 h)) hfull
  refine ⟨w, fun tr htr => ?_, (hK0 w).2 hw, hwk, fun u => ?_⟩
  · rw [firstIn_congr hK0]
    exact h10 hlive tr htr
  · rw [hall u, hK0 u, hres _ (Nat.le_refl _) u]
    exact or_comm.trans (or_congr_left and_comm)

/-- **C10 for the deadline caches on the recorded events alone, clock standing still**: the guard of C10 is `hlen`,
the sweep after event `i` has `size()` entries. -/
theorem ttl_lru_victim_observed_sameclock (h0 : evs[i]? = some e0) (h1 : evs[i + 1]? = some e)
    (hop : e.op = .insert k v a ttl) (hout : e.out = .bool true)
    (hs : s = (c.run s0 (opsOf (evs.take (i + 1)))).1) {D : Prop} (hD : e.now < c.dlOf s e.now ttl ↔ D)
    (hnew : k ∉ sweepKeys e0) (hfull : e0.obs.size = e0.obs.cap)
    (hsame : e.now = e0.now) (hlen : e0.obs.sweep.length = e0.obs.size) :
    ∃ w, (∀ tr : STrace TlruState, tr.atoms = (c.runA s0 (opsOf (evs.take (i + 1)))).2.2 →
            firstIn (useOrder tr) (sweepKeys e0) = some w) ∧
      w ∈ sweepKeys e0 ∧ w ≠ k ∧
      ∀ u, u ∈ sweepKeys e ↔ (u ∈ sweepKeys e0 ∧ u ≠ w) ∨ (u = k ∧ D) := by
  obtain ⟨hi, hsw, hsz, -, hS0⟩ := hT.tied hinit hinst hlog hacc h0 hs
  have hlive := (ttl_all_live_iff hi hsw hsz hS0).2 hlen
  rw [← hsame] at hlive
  exact ttl_lru_victim_observed hT hinit hinst hlog hacc h0 h1 hop hout hs hD
    hnew hfull (Nat.le_of_eq hsame.symm) hlive

/-- **C16 for the deadline caches on the recorded events alone, clock standing still.**  `hlen`: some resident entry
has expired and not been reaped.  Then the insert costs no live entry.  Whether `k` itself was the expired resident
(the call re-creates it in place) or an expired entry was evicted for it cannot be told from the recorded events; the
conclusion holds in both cases. -/
theorem ttl_expired_first_observed_sameclock (h0 : evs[i]? = some e0) (h1 : evs[i + 1]? = some e)
    (hop : e.op = .insert k v a ttl) (hout : e.out = .bool true)
    (hs : s = (c.run s0 (opsOf (evs.take (i + 1)))).1) {D : Prop} (hD : e.now < c.dlOf s e.now ttl ↔ D)
    (hnew : k ∉ sweepKeys e0) (hfull : e0.obs.size = e0.obs.cap)
    (hsame : e.now = e0.now) (hlen : e0.obs.sweep.length < e0.obs.size) :
    ∀ u, u ∈ sweepKeys e ↔ u ∈ sweepKeys e0 ∨ (u = k ∧ D) := by
  obtain ⟨hi, hsw, hsz, -, hS0⟩ := hT.tied hinit hinst hlog hacc h0 hs
  have hmem0 : ∀ u, u ∈ sweepKeys e0 ↔ LiveAt s e.now u := fun u => hsame ▸ hS0 u
  intro u
  by_cases hres : k ∈ keys s.ents
  · -- `k` is resident, so expired: the call overwrites it in place
    obtain ⟨s', -, hast, hS1⟩ :=
      insert_on_reference hT.R hT.emb hT.lookAbs hinit hinst hlog hacc hs hT.inv0 hT.abs0 (fun _ _ _ h => h)
        (by decide) hT.like.pre (fun _ => hi) h1 hop hout
    obtain ⟨x, hx⟩ := mem_keys_iff_getE.mp hres
    rw [hS1, astep_ins_resident hast (absOf_get_some hx), AMap.exists_set, ← liveAt_abs, ← hmem0, liveAt_lazy, hD,
      or_comm]
    -- `u ≠ k` adds nothing to `u ∈ sweepKeys e0`, which does not show `k`
    exact or_congr_left (and_iff_right_of_imp fun h hk => hnew (hk ▸ h))
  · -- `k` is not resident: an expired entry is evicted
    have hexp : ∃ en ∈ s.ents, en.dl ≤ e.now := Classical.byContradiction fun hno =>
      Nat.ne_of_lt hlen ((ttl_all_live_iff hi hsw hsz hS0).1 fun en hen =>
        Nat.lt_of_not_le fun hle => hno ⟨en, hen, hsame ▸ hle⟩)
    obtain ⟨-, -, -, w, -, -, hall, h16, -⟩ :=
      ttl_insert_observed hT hinit hinst hlog hacc h0 h1 hop hout hs hD hres hfull
    obtain ⟨⟨ew, hew, hdw⟩, -⟩ := h16 hexp
    rw [hall u, hmem0 u, or_comm]
    exact or_congr_left (and_iff_right_of_imp fun hu huw => not_liveAt_of_expired hew hdw (huw ▸ hu))

end ttl

theorem lt_add_ms_iff (t ttl : Nat) : t < t + ttl * msNs ↔ 0 < ttl :=
  Nat.lt_add_right_iff_pos.trans (Nat.mul_pos_iff_of_pos_right (by decide))

/-- what the replayed twin of the `tlru_cache` holds after the first `n` events of the log -/
def tlruAfter (cfg : Cfg) (evs : List Event) (n : Nat) : TlruState :=
  (Tlru.core.run (Tlru.init cfg.cap) (opsOf (evs.take n))).1

/-- **C16 and C10 at event level (tlru_cache)**: `ttl_insert_observed` for a `tlru_cache` of capacity ≥ 1.  The
sweep after event `i + 1` shows `k` iff `ttl > 0`. -/
theorem tlru_insert_observed (cfg : Cfg) (hk : cfg.kind = .tlru) (hcap : 0 < cfg.cap) (nkeys : Nat)
    (evs : List Event) (hinst : ∀ e ∈ evs, e.inst = 0) (hlog : logOk nkeys evs = true)
    (hacc : l1 cfg nkeys evs = none)
    (i : Nat) (e0 e : Event) (k : Key) (v : Val) (a : Allow) (ttl : Nat)
    (h0 : evs[i]? = some e0) (h1 : evs[i + 1]? = some e)
    (hop : e.op = .insert k v a ttl) (hout : e.out = .bool true)
    (hnew : k ∉ keys (tlruAfter cfg evs (i + 1)).ents) (hfull : e0.obs.size = e0.obs.cap) :
    Tlru.core.sweep (tlruAfter cfg evs (i + 1)) e0.now nkeys = e0.obs.sweep ∧
    (tlruAfter cfg evs (i + 1)).ents.length = e0.obs.size ∧ (tlruAfter cfg evs (i + 1)).cap = e0.obs.cap ∧
    ∃ w, w ∈ keys (tlruAfter cfg evs (i + 1)).ents ∧ w ≠ k ∧
      (∀ u, u ∈ sweepKeys e ↔ (u = k ∧ 0 < ttl) ∨ (u ≠ w ∧ LiveAt (tlruAfter cfg evs (i + 1)) e.now u)) ∧
      ((∃ en ∈ (tlruAfter cfg evs (i + 1)).ents, en.dl ≤ e.now) →
        (∃ en, getE (tlruAfter cfg evs (i + 1)).ents w = some en ∧ en.dl ≤ e.now) ∧
        ∀ u ∈ sweepKeys e0, LiveAt (tlruAfter cfg evs (i + 1)) e.now u → u ∈ sweepKeys e) ∧
      ((∀ en ∈ (tlruAfter cfg evs (i + 1)).ents, e.now < en.dl) →
        ∀ tr : STrace TlruState, tr.atoms = (tlruV cfg.cap hcap).history (opsOf (evs.take (i + 1))) →
          firstIn (useOrder tr) (keys (tlruAfter cfg evs (i + 1)).ents) = some w) :=
  ttl_insert_observed (s := tlruAfter cfg evs (i + 1)) (ttl_tlru cfg.cap hcap) (MState.init_tlru hk) hinst hlog
    hacc h0 h1 hop hout rfl (lt_add_ms_iff e.now ttl) hnew hfull

/-- **C10 in terms of the two recorded sweeps (tlru_cache)**; `hlive` is a condition on the replayed twin. -/
theorem tlru_lru_victim_observed (cfg : Cfg) (hk : cfg.kind = .tlru) (hcap : 0 < cfg.cap) (nkeys : Nat)
    (evs : List Event) (hinst : ∀ e ∈ evs, e.inst = 0) (hlog : logOk nkeys evs = true)
    (hacc : l1 cfg nkeys evs = none)
    (i : Nat) (e0 e : Event) (k : Key) (v : Val) (a : Allow) (ttl : Nat)
    (h0 : evs[i]? = some e0) (h1 : evs[i + 1]? = some e)
    (hop : e.op = .insert k v a ttl) (hout : e.out = .bool true)
    (hnew : k ∉ sweepKeys e0) (hfull : e0.obs.size = e0.obs.cap)
    (hmono : e0.now ≤ e.now) (hlive : ∀ en ∈ (tlruAfter cfg evs (i + 1)).ents, e.now < en.dl) :
    ∃ w, (∀ tr : STrace TlruState, tr.atoms = (tlruV cfg.cap hcap).history (opsOf (evs.take (i + 1))) →
            firstIn (useOrder tr) (sweepKeys e0) = some w) ∧
      w ∈ sweepKeys e0 ∧ w ≠ k ∧
      ∀ u, u ∈ sweepKeys e ↔ (u ∈ sweepKeys e0 ∧ u ≠ w) ∨ (u = k ∧ 0 < ttl) :=
  ttl_lru_victim_observed (ttl_tlru cfg.cap hcap) (MState.init_tlru hk) hinst hlog hacc h0 h1 hop hout rfl
    (lt_add_ms_iff e.now ttl) hnew hfull hmono hlive

def utlruAfter (cfg : Cfg) (evs : List Event) (n : Nat) : TlruState :=
  (Utlru.core.run (Utlru.init cfg.cap cfg.ttl) (opsOf (evs.take n))).1

/-- **C16 and C10 at event level (utlru_cache)**: `ttl_insert_observed` for a `utlru_cache` of capacity ≥ 1.  The
inserted key's deadline is the insert's clock reading plus the TTL currently configured (`s.ttl`: the constructor's,
or the latest `update_ttl`'s), so the sweep after event `i + 1` shows `k` iff that TTL is positive. -/
theorem utlru_insert_observed (cfg : Cfg) (hk : cfg.kind = .utlru) (hcap : 0 < cfg.cap) (nkeys : Nat)
    (evs : List Event) (hinst : ∀ e ∈ evs, e.inst = 0) (hlog : logOk nkeys evs = true)
    (hacc : l1 cfg nkeys evs = none)
    (i : Nat) (e0 e : Event) (k : Key) (v : Val) (a : Allow) (ttl : Nat)
    (h0 : evs[i]? = some e0) (h1 : evs[i + 1]? = some e)
    (hop : e.op = .insert k v a ttl) (hout : e.out = .bool true)
    (hnew : k ∉ keys (utlruAfter cfg evs (i + 1)).ents) (hfull : e0.obs.size = e0.obs.cap) :
    Utlru.core.sweep (utlruAfter cfg evs (i + 1)) e0.now nkeys = e0.obs.sweep ∧
    (utlruAfter cfg evs (i + 1)).ents.length = e0.obs.size ∧ (utlruAfter cfg evs (i + 1)).cap = e0.obs.cap ∧
    ∃ w, w ∈ keys (utlruAfter cfg evs (i + 1)).ents ∧ w ≠ k ∧
      (∀ u, u ∈ sweepKeys e ↔
        (u = k ∧ 0 < (utlruAfter cfg evs (i + 1)).ttl) ∨ (u ≠ w ∧ LiveAt (utlruAfter cfg evs (i + 1)) e.now u)) ∧
      ((∃ en ∈ (utlruAfter cfg evs (i + 1)).ents, en.dl ≤ e.now) →
        (∃ en, getE (utlruAfter cfg evs (i + 1)).ents w = some en ∧ en.dl ≤ e.now) ∧
        ∀ u ∈ sweepKeys e0, LiveAt (utlruAfter cfg evs (i + 1)) e.now u → u ∈ sweepKeys e) ∧
      ((∀ en ∈ (utlruAfter cfg evs (i + 1)).ents, e.now < en.dl) →
        ∀ tr : STrace TlruState, tr.atoms = (utlruV cfg.cap hcap cfg.ttl).history (opsOf (evs.take (i + 1))) →
          firstIn (useOrder tr) (keys (utlruAfter cfg evs (i + 1)).ents) = some w) :=
  ttl_insert_observed (s := utlruAfter cfg evs (i + 1)) (ttl_utlru cfg.cap hcap cfg.ttl) (MState.init_utlru hk)
    hinst hlog hacc h0 h1 hop hout rfl Nat.lt_add_right_iff_pos hnew hfull

/-- **C10 in terms of the two recorded sweeps (utlru_cache)**; `hlive` and the TTL in force are read off the
replayed twin. -/
theorem utlru_lru_victim_observed (cfg : Cfg) (hk : cfg.kind = .utlru) (hcap : 0 < cfg.cap) (nkeys : Nat)
    (evs : List Event) (hinst : ∀ e ∈ evs, e.inst = 0) (hlog : logOk nkeys evs = true)
    (hacc : l1 cfg nkeys evs = none)
    (i : Nat) (e0 e : Event) (k : Key) (v : Val) (a : Allow) (ttl : Nat)
    (h0 : evs[i]? = some e0) (h1 : evs[i + 1]? = some e)
    (hop : e.op = .insert k v a ttl) (hout : e.out = .bool true)
    (hnew : k ∉ sweepKeys e0) (hfull : e0.obs.size = e0.obs.cap)
    (hmono : e0.now ≤ e.now) (hlive : ∀ en ∈ (utlruAfter cfg evs (i + 1)).ents, e.now < en.dl) :
    ∃ w, (∀ tr : STrace TlruState,
            tr.atoms = (utlruV cfg.cap hcap cfg.ttl).history (opsOf (evs.take (i + 1))) →
            firstIn (useOrder tr) (sweepKeys e0) = some w) ∧
      w ∈ sweepKeys e0 ∧ w ≠ k ∧
      ∀ u, u ∈ sweepKeys e ↔ (u ∈ sweepKeys e0 ∧ u ≠ w) ∨ (u = k ∧ 0 < (utlruAfter cfg evs (i + 1)).ttl) :=
  ttl_lru_victim_observed (ttl_utlru cfg.cap hcap cfg.ttl) (MState.init_utlru hk) hinst hlog hacc h0 h1 hop
    hout rfl Nat.lt_add_right_iff_pos hnew hfull hmono hlive

/-- **C10 on the recorded events alone, clock standing still (tlru_cache).** -/
theorem tlru_lru_victim_observed_sameclock (cfg : Cfg) (hk : cfg.kind = .tlru) (hcap : 0 < cfg.cap) (nkeys : Nat)
    (evs : List Event) (hinst : ∀ e ∈ evs, e.inst = 0) (hlog : logOk nkeys evs = true)
    (hacc : l1 cfg nkeys evs = none)
    (i : Nat) (e0 e : Event) (k : Key) (v : Val) (a : Allow) (ttl : Nat)
    (h0 : evs[i]? = some e0) (h1 : evs[i + 1]? = some e)
    (hop : e.op = .insert k v a ttl) (hout : e.out = .bool true)
    (hnew : k ∉ sweepKeys e0) (hfull : e0.obs.size = e0.obs.cap)
    (hsame : e.now = e0.now) (hlen : e0.obs.sweep.length = e0.obs.size) :
    ∃ w, (∀ tr : STrace TlruState, tr.atoms = (tlruV cfg.cap hcap).history (opsOf (evs.take (i + 1))) →
            firstIn (useOrder tr) (sweepKeys e0) = some w) ∧
      w ∈ sweepKeys e0 ∧ w ≠ k ∧
      ∀ u, u ∈ sweepKeys e ↔ (u ∈ sweepKeys e0 ∧ u ≠ w) ∨ (u = k ∧ 0 < ttl) :=
  ttl_lru_victim_observed_sameclock (ttl_tlru cfg.cap hcap) (MState.init_tlru hk) hinst hlog hacc h0 h1 hop
    hout rfl (lt_add_ms_iff e.now ttl) hnew hfull hsame hlen

/-- **C16 on the recorded events alone, clock standing still (tlru_cache).** -/
theorem tlru_expired_first_observed_sameclock (cfg : Cfg) (hk : cfg.kind = .tlru) (hcap : 0 < cfg.cap)
    (nkeys : Nat) (evs : List Event) (hinst : ∀ e ∈ evs, e.inst = 0) (hlog : logOk nkeys evs = true)
    (hacc : l1 cfg nkeys evs = none)
    (i : Nat) (e0 e : Event) (k : Key) (v : Val) (a : Allow) (ttl : Nat)
    (h0 : evs[i]? = some e0) (h1 : evs[i + 1]? = some e)
    (hop : e.op = .insert k v a ttl) (hout : e.out = .bool true)
    (hnew : k ∉ sweepKeys e0) (hfull : e0.obs.size = e0.obs.cap)
    (hsame : e.now = e0.now) (hlen : e0.obs.sweep.length < e0.obs.size) :
    ∀ u, u ∈ sweepKeys e ↔ u ∈ sweepKeys e0 ∨ (u = k ∧ 0 < ttl) :=
  ttl_expired_first_observed_sameclock (ttl_tlru cfg.cap hcap) (MState.init_tlru hk) hinst hlog hacc h0 h1
    hop hout rfl (lt_add_ms_iff e.now ttl) hnew hfull hsame hlen

/-- **C10 on the recorded events alone, clock standing still (utlru_cache)**, but for the TTL in force, which is
read off the replayed twin. -/
theorem utlru_lru_victim_observed_sameclock (cfg : Cfg) (hk : cfg.kind = .utlru) (hcap : 0 < cfg.cap) (nkeys : Nat)
    (evs : List Event) (hinst : ∀ e ∈ evs, e.inst = 0) (hlog : logOk nkeys evs = true)
    (hacc : l1 cfg nkeys evs = none)
    (i : Nat) (e0 e : Event) (k : Key) (v : Val) (a : Allow) (ttl : Nat)
    (h0 : evs[i]? = some e0) (h1 : evs[i + 1]? = some e)
    (hop : e.op = .insert k v a ttl) (hout : e.out = .bool true)
    (hnew : k ∉ sweepKeys e0) (hfull : e0.obs.size = e0.obs.cap)
    (hsame : e.now = e0.now) (hlen : e0.obs.sweep.length = e0.obs.size) :
    ∃ w, (∀ tr : STrace TlruState,
            tr.atoms = (utlruV cfg.cap hcap cfg.ttl).history (opsOf (evs.take (i + 1))) →
            firstIn (useOrder tr) (sweepKeys e0) = some w) ∧
      w ∈ sweepKeys e0 ∧ w ≠ k ∧
      ∀ u, u ∈ sweepKeys e ↔ (u ∈ sweepKeys e0 ∧ u ≠ w) ∨ (u = k ∧ 0 < (utlruAfter cfg evs (i + 1)).ttl) :=
  ttl_lru_victim_observed_sameclock (ttl_utlru cfg.cap hcap cfg.ttl) (MState.init_utlru hk) hinst hlog hacc
    h0 h1 hop hout rfl Nat.lt_add_right_iff_pos hnew hfull hsame hlen

/-- **C16 on the recorded events alone, clock standing still (utlru_cache)**, but for the TTL in force. -/
theorem utlru_expired_first_observed_sameclock (cfg : Cfg) (hk : cfg.kind = .utlru) (hcap : 0 < cfg.cap)
    (nkeys : Nat) (evs : List Event) (hinst : ∀ e ∈ evs, e.inst = 0) (hlog : logOk nkeys evs = true)
    (hacc : l1 cfg nkeys evs = none)
    (i : Nat) (e0 e : Event) (k : Key) (v : Val) (a : Allow) (ttl : Nat)
    (h0 : evs[i]? = some e0) (h1 : evs[i + 1]? = some e)
    (hop : e.op = .insert k v a ttl) (hout : e.out = .bool true)
    (hnew : k ∉ sweepKeys e0) (hfull : e0.obs.size = e0.obs.cap)
    (hsame : e.now = e0.now) (hlen : e0.obs.sweep.length < e0.obs.size) :
    ∀ u, u ∈ sweepKeys e ↔ u ∈ sweepKeys e0 ∨ (u = k ∧ 0 < (utlruAfter cfg evs (i + 1)).ttl) :=
  ttl_expired_first_observed_sameclock (ttl_utlru cfg.cap hcap cfg.ttl) (MState.init_utlru hk) hinst hlog
    hacc h0 h1 hop hout rfl Nat.lt_add_right_iff_pos hnew hfull hsame hlen

/-- exactly the atoms at which `rr_cache::do_prune` runs and consumes one random outcome -/
def isDraw (cap : Nat) (s : RrState) : Atom → Bool
  | .ins k _ _ _ true => decide (k ∉ keys s.ents ∧ cap ≤ s.ents.length)
  | _ => false

def rrDraws (cap : Nat) (tr : STrace RrState) : Nat := (tr.filter (fun x => isDraw cap x.1 x.2.2)).length

theorem rrDraws_snoc (cap : Nat) (p : STrace RrState) (s : RrState) (now : Time) (x : Atom) :
    rrDraws cap (p ++ [(s, now, x)]) = rrDraws cap p + (if isDraw cap s x = true then 1 else 0) := by
  unfold rrDraws
  rw [List.filter_append, List.length_append]
  by_cases h : isDraw cap s x = true <;> simp [h]

theorem isDraw_ins (cap : Nat) (s : RrState) (k : Key) (v : Val) (a : Allow) (d : Time) (ok : Bool) :
    isDraw cap s (.ins k v a d ok) = true ↔ ok = true ∧ k ∉ keys s.ents ∧ cap ≤ s.ents.length := by
  cases ok
  · exact ⟨fun h => (nomatch h), fun h => (nomatch h.1)⟩
  · exact decide_eq_true_iff.trans (and_iff_right rfl).symm

/-- an atom consumes a mirrored draw exactly when it `isDraw` (`do_prune` runs): the unused draws lose their head -/
theorem rr_rnd_step {cap : Nat} {s s' : RrState} {now : Time} {x : Atom} (hi : Rr.Inv cap s)
    (hs : CStep Rr.core s now x s') : s'.rnd = s.rnd.drop (if isDraw cap s x = true then 1 else 0) := by
  cases hs with
  | ins k v a ttl =>
    show (Rr.insert1 s k v a).1.rnd = s.rnd.drop (if isDraw cap s (.ins k v a _ (Rr.insert1 s k v a).2) = true then 1 else 0)
    rw [Rr.insert1_rnd, hi.cap_eq]
    simp only [isDraw_ins, apply_ite (List.drop · s.rnd), List.drop_one, List.drop_zero]
  | del k =>
    show (Rr.erase1 s k).1.rnd = _
    unfold Rr.erase1
    split <;> rfl
  | clear hc => cases hc
  | _ => rfl

/-- after a run the unused draws are the configured list without its first `rrDraws cap tr` elements, so the next
victim's slot is named by the element at that index -/
theorem rr_rnd_run {cap : Nat} (hcap : 0 < cap) {rnd : List Nat} (hr : ∀ r ∈ rnd, r < cap)
    {tr : STrace RrState} {s : RrState} (hrun : CRun Rr.core (Rr.init cap rnd) tr s) :
    s.rnd = rnd.drop (rrDraws cap tr) :=
  (CRun.invariant (c := Rr.core) (pre := [])
    (P := fun p s => Rr.Inv cap s ∧ s.rnd = rnd.drop (rrDraws cap p))
    (fun p s now x s' ⟨hi, hrd⟩ hs =>
      ⟨(Refines.cstep (Rr.refines cap) (now := now) hi hs).1, by
        rw [rr_rnd_step hi hs, hrd, rrDraws_snoc, List.drop_drop]⟩)
    ⟨Rr.inv_init hcap rnd hr, rfl⟩ hrun).2

def rrAfter (cfg : Cfg) (evs : List Event) (n : Nat) : RrState :=
  (Rr.core.run (Rr.init cfg.cap cfg.rnd) (opsOf (evs.take n))).1

/-- **C15 at event level (rr_cache).**  Single-instance log of an `rr_cache` of capacity ≥ 1 accepted by the
observable tier, the model fed the draws the harness mirrored (`cfg.rnd`, every outcome `< cfg.cap`), every inserted
key in the swept universe.  At an evicting insert as in `lru_victim_observed`, the one key `w` that leaves the
observed sweep is the key of the entry the model (whose resident keys are exactly the keys swept after event `i`)
stores in slot `r`, where `r < cfg.cap` is the next unused outcome of `cfg.rnd`: the one after the
`rrDraws cfg.cap tr` outcomes the evictions of events `0 .. i` consumed (an exhausted list yields 0).  No other
resident entry sits in slot `r`. -/
theorem rr_victim_observed (cfg : Cfg) (hk : cfg.kind = .rr) (hcap : 0 < cfg.cap)
    (hrnd : ∀ r ∈ cfg.rnd, r < cfg.cap) (nkeys : Nat)
    (evs : List Event) (hinst : ∀ e ∈ evs, e.inst = 0) (hlog : logOk nkeys evs = true)
    (hacc : l1 cfg nkeys evs = none)
    (i : Nat) (e0 e : Event) (k : Key) (v : Val) (a : Allow) (ttl : Nat)
    (h0 : evs[i]? = some e0) (h1 : evs[i + 1]? = some e)
    (hop : e.op = .insert k v a ttl) (hout : e.out = .bool true)
    (hnew : k ∉ sweepKeys e0) (hfull : e0.obs.size = e0.obs.cap) :
    ∃ (tr : STrace RrState) (w : Key) (en : Entry),
      CRun Rr.core (Rr.init cfg.cap cfg.rnd) tr (rrAfter cfg evs (i + 1)) ∧
      tr.atoms = (rrV cfg.cap hcap cfg.rnd hrnd).history (opsOf (evs.take (i + 1))) ∧
      (∀ u, u ∈ sweepKeys e0 ↔ u ∈ keys (rrAfter cfg evs (i + 1)).ents) ∧
      (cfg.rnd.drop (rrDraws cfg.cap tr)).headD 0 < cfg.cap ∧
      en ∈ (rrAfter cfg evs (i + 1)).ents ∧
      en.slot = (cfg.rnd.drop (rrDraws cfg.cap tr)).headD 0 ∧
      (∀ e' ∈ (rrAfter cfg evs (i + 1)).ents, e'.slot = (cfg.rnd.drop (rrDraws cfg.cap tr)).headD 0 → e' = en) ∧
      en.key = w ∧ w ∈ sweepKeys e0 ∧ w ≠ k ∧
      ∀ u, u ∈ sweepKeys e ↔ (u ∈ sweepKeys e0 ∧ u ≠ w) ∨ u = k := by
  obtain ⟨tr, s', hrun, hat, -, hK0, hstep, hnew', hfull', hE⟩ :=
    evicting_insert_model (plain_rr cfg.cap hcap cfg.rnd hrnd) (MState.init_rr hk) hinst hlog hacc h0 h1 hop hout
      hnew hfull (s := rrAfter cfg evs (i + 1)) rfl
  obtain ⟨en, hslot, hev, -, hlt⟩ := C15_rr_victim cfg.cap hcap cfg.rnd hrnd hrun hstep hnew' hfull'
  rw [rr_rnd_run hcap hrnd hrun] at hslot hlt
  have hmem : en ∈ (rrAfter cfg evs (i + 1)).ents := List.mem_of_find?_eq_some hslot
  have hsl : en.slot = (cfg.rnd.drop (rrDraws cfg.cap tr)).headD 0 :=
    of_decide_eq_true (List.find?_some (p := fun e : Entry => decide (e.slot = _)) hslot)
  obtain ⟨en', -, -, huniq⟩ := (C15_rr_bijection cfg.cap hcap cfg.rnd hrnd hrun hfull').1 _ hlt
  cases huniq en hmem hsl
  exact ⟨tr, en.key, en, hrun, hat, hK0, hlt, hmem, hsl, huniq, rfl, hE _ hev⟩

theorem timesFrom_append_left {t : Time} {p q : List (Time × Op)} (h : TimesFrom t (p ++ q)) : TimesFrom t p := by
  induction p generalizing t with
  | nil => trivial
  | cons x p ih => exact ⟨h.1, ih h.2⟩

theorem timesFrom_take {t : Time} {evs : List Event} (h : TimesFrom t (opsOf evs)) (n : Nat) :
    TimesFrom t (opsOf (evs.take n)) := by
  have : opsOf evs = opsOf (evs.take n) ++ opsOf (evs.drop n) := by
    unfold opsOf; rw [← List.map_append, List.take_append_drop]
  rw [this] at h
  exact timesFrom_append_left h

theorem timesFrom_le_last {t t' : Time} {op : Op} {p : List (Time × Op)} (h : TimesFrom t (p ++ [(t', op)])) :
    t ≤ t' ∧ ∀ x ∈ p, x.1 ≤ t' := by
  induction p generalizing t with
  | nil => exact ⟨h.1, fun _ hx => nomatch hx⟩
  | cons y p ih =>
    obtain ⟨h1, h2⟩ := ih h.2
    refine ⟨Nat.le_trans h.1 h1, fun x hx => ?_⟩
    rcases List.mem_cons.1 hx with rfl | hx
    · exact h1
    · exact h2 x hx

def lfudaAfter (cfg : Cfg) (evs : List Event) (n : Nat) : LfudaState :=
  (Lfuda.core.run (Lfuda.init cfg.cap cfg.tick cfg.num cfg.den) (opsOf (evs.take n))).1

theorem _root_.Verif.Core.monotone_of_history {σ : Type} (c : Core σ) {s0 : σ} {ops : List (Time × Op)} {t : Time}
    {op : Op} (ht : TimesFrom 0 (ops ++ [(t, op)])) {tr : STrace σ} (hat : tr.atoms = (c.runA s0 ops).2.2)
    (s : σ) (x : Atom) : STrace.monotone (tr ++ [(s, t, x)]) := by
  have hpw := c.runA_pairwise s0 ops 0 (timesFrom_append_left ht)
  rw [← hat, STrace.atoms, List.pairwise_map] at hpw
  unfold STrace.monotone
  rw [List.pairwise_append]
  refine ⟨hpw, List.pairwise_singleton _ _, fun y hy z hz => ?_⟩
  cases List.mem_singleton.1 hz
  have hy' : y.2 ∈ (c.runA s0 ops).2.2 := hat ▸ List.mem_map_of_mem (f := (·.2)) hy
  obtain ⟨_, op', hop', -⟩ := c.mem_runA (t := y.2.1) (x := y.2.2) hy'
  exact (timesFrom_le_last ht).2 _ hop'

theorem lfuda_sweep_count {cap tick num den : Nat} {g : DA} {T : Time} {s : LfudaState}
    (hord : Lfuda.Ord cap tick num den g T s) {now : Time} {n : Nat} {u : Key} {vu : Val} {cu : Nat}
    (h : (u, vu, cu) ∈ Lfuda.core.sweep s now n) : cu = g.cnt u := by
  obtain ⟨en, hen, rfl, hf⟩ := mem_sweep_entry Lfuda.core (·.ents) (fun _ _ _ => rfl) h
  cases hf
  exact hord.cnt_eq en hen

/-- **C14 at event level, counts (lfuda_cache).**  Single-instance log of an `lfuda_cache` accepted by the
observable tier; the clock readings recorded for events `0 .. i` never decrease.  After event `i`, the use count the
sweep (`find_with_use_count(k, peek::yes)`) reported for each key is the count the aging ghost (`lfudaGhost`, i.e.
`daGhost`) holds for it after the run `tr` of the model over the recorded history of events `0 .. i`: 1 at creation,
+1 per accepted update and per successful non-peek lookup, and scaled by `num/den` (rounded down) at every aging
point (`dynamically_age()`, or an evicting insert) at which the entry had been idle for strictly longer than the
tick. -/
theorem lfuda_counts_observed (cfg : Cfg) (hk : cfg.kind = .lfuda) (hcap : 0 < cfg.cap) (nkeys : Nat)
    (evs : List Event) (hinst : ∀ e ∈ evs, e.inst = 0) (hacc : l1 cfg nkeys evs = none)
    (i : Nat) (e : Event) (hi : evs[i]? = some e) (ht : TimesFrom 0 (opsOf (evs.take (i + 1)))) :
    ∃ tr : STrace LfudaState,
      CRun Lfuda.core (Lfuda.init cfg.cap cfg.tick cfg.num cfg.den) tr (lfudaAfter cfg evs (i + 1)) ∧
      tr.atoms = (lfudaV cfg.cap hcap cfg.tick cfg.num cfg.den).history (opsOf (evs.take (i + 1))) ∧
      STrace.monotone tr ∧
      ∀ u vu cu, (u, vu, cu) ∈ e.obs.sweep → cu = (lfudaGhost cfg.cap cfg.tick cfg.num cfg.den tr).cnt u := by
  obtain ⟨tr, hrun, hat, hmono⟩ :=
    Lfuda.core.steps_of_history (Lfuda.init cfg.cap cfg.tick cfg.num cfg.den) (opsOf (evs.take (i + 1))) 0 ht
  rw [(Lfuda.core.runA_eq _ _).1] at hrun
  obtain ⟨T, hord, -⟩ := Lfuda.run_inv cfg.cap cfg.tick cfg.num cfg.den hrun hmono
  have hb := (emb_lfuda.transfer (MState.init_lfuda hk) hinst hacc hi).2.2.2
  exact ⟨tr, hrun, hat, hmono, fun u vu cu hmem => lfuda_sweep_count hord (hb ▸ hmem)⟩

/-- **C14 at event level, `dynamically_age()` (lfuda_cache).**  Setting as in `lfuda_counts_observed`.  If event
`i` is a `dynamically_age()` call that reported `n`, then `n` is the number of entries the aging ghost ages at that
point: the number of keys resident in the model state before the call whose ghost stamp (time of last use or aging,
in the run `tr` of the model over events `0 .. i-1`) is more than the tick before the call's clock reading. -/
theorem lfuda_age_observed (cfg : Cfg) (hk : cfg.kind = .lfuda) (hcap : 0 < cfg.cap) (nkeys : Nat)
    (evs : List Event) (hinst : ∀ e ∈ evs, e.inst = 0) (hacc : l1 cfg nkeys evs = none)
    (i : Nat) (e : Event) (n : Nat) (hi : evs[i]? = some e) (hop : e.op = .age) (hout : e.out = .nat n)
    (ht : TimesFrom 0 (opsOf (evs.take (i + 1)))) :
    ∃ tr : STrace LfudaState,
      CRun Lfuda.core (Lfuda.init cfg.cap cfg.tick cfg.num cfg.den) tr (lfudaAfter cfg evs i) ∧
      tr.atoms = (lfudaV cfg.cap hcap cfg.tick cfg.num cfg.den).history (opsOf (evs.take i)) ∧
      STrace.monotone tr ∧
      n = ((lfudaGhost cfg.cap cfg.tick cfg.num cfg.den tr).ageAt (keys (lfudaAfter cfg evs i).ents)
            (cfg.tick * msNs) cfg.num cfg.den e.now).2 := by
  rw [opsOf_take_succ hi] at ht
  obtain ⟨tr, hrun, hat⟩ :=
    Lfuda.core.run_crun (Lfuda.init cfg.cap cfg.tick cfg.num cfg.den) (opsOf (evs.take i))
  have hm := (emb_lfuda.transfer (MState.init_lfuda hk) hinst hacc hi).1
  rw [hop, hout] at hm
  have hstep := CStep.age (c := Lfuda.core) (lfudaAfter cfg evs i) e.now
  rw [show (Lfuda.core.age (lfudaAfter cfg evs i) e.now).2 = n from Out.nat.inj (congrArg Prod.snd hm)] at hstep
  have hmono := Lfuda.core.monotone_of_history ht hat (lfudaAfter cfg evs i) (.age n)
  exact ⟨tr, hrun, hat, (STrace.monotone_snoc hmono).1,
    C14_lfuda_age cfg.cap cfg.tick cfg.num cfg.den hrun hstep hmono⟩

/-- **C14 at event level, `dynamically_age()`, in terms of the previous recorded sweep (lfuda_cache).**  If every
inserted key is in the swept universe, the keys resident before the call are those the sweep after event `i` showed,
so `n` is the number of keys `u` of that sweep with `stamp u + tick < e.now`. -/
theorem lfuda_age_observed_sweep (cfg : Cfg) (hk : cfg.kind = .lfuda) (hcap : 0 < cfg.cap) (nkeys : Nat)
    (evs : List Event) (hinst : ∀ e ∈ evs, e.inst = 0) (hlog : logOk nkeys evs = true)
    (hacc : l1 cfg nkeys evs = none)
    (i : Nat) (e0 e : Event) (n : Nat) (h0 : evs[i]? = some e0) (h1 : evs[i + 1]? = some e)
    (hop : e.op = .age) (hout : e.out = .nat n)
    (ht : TimesFrom 0 (opsOf (evs.take (i + 2)))) :
    ∃ tr : STrace LfudaState,
      CRun Lfuda.core (Lfuda.init cfg.cap cfg.tick cfg.num cfg.den) tr (lfudaAfter cfg evs (i + 1)) ∧
      tr.atoms = (lfudaV cfg.cap hcap cfg.tick cfg.num cfg.den).history (opsOf (evs.take (i + 1))) ∧
      STrace.monotone tr ∧
      n = ((sweepKeys e0).filter (fun u =>
            decide ((lfudaGhost cfg.cap cfg.tick cfg.num cfg.den tr).stamp u + cfg.tick * msNs < e.now))).length := by
  obtain ⟨tr, hrun, hat, hmono, hn⟩ :=
    lfuda_age_observed cfg hk hcap nkeys evs hinst hacc (i + 1) e n h1 hop hout ht
  refine ⟨tr, hrun, hat, hmono, ?_⟩
  rw [hn]
  -- with the state a variable, matching `(ageAt …).2` with the length of a filter does not unfold the model's run
  generalize hs : lfudaAfter cfg evs (i + 1) = s at hrun ⊢
  obtain ⟨-, hsw, -, -, hK0⟩ :=
    (plain_lfuda cfg.cap hcap cfg.tick cfg.num cfg.den).tied (MState.init_lfuda hk) hinst hlog hacc h0 hs.symm
  obtain ⟨T, hord, -⟩ := Lfuda.run_inv cfg.cap cfg.tick cfg.num cfg.den hrun hmono
  exact length_filter_eq_of_nodup hord.nodup (nodup_sweepKeys hsw) (fun u => (hK0 u).symm)

theorem ageAt_congr {g : DA} {rk rk' : List Key} (h : ∀ u, u ∈ rk ↔ u ∈ rk') (tick num den : Nat) (now : Time) :
    (g.ageAt rk tick num den now).1.cnt = (g.ageAt rk' tick num den now).1.cnt := by
  funext k
  unfold DA.ageAt
  simp only [h k]

/-- **C14/C11 at event level, victim (lfuda_cache).**  As `lru_victim_observed`, the clock readings recorded for
events `0 .. i + 1` never decreasing.  The key `w` that leaves the sweep has a minimal count among the keys swept
after event `i` *after* they are aged at the insert's clock reading (`ageAt`), the counts before aging being those of
the aging ghost of the run `tr` of the model over the recorded history of events `0 .. i` — which are the counts the
sweep after event `i` reported. -/
theorem lfuda_victim_observed (cfg : Cfg) (hk : cfg.kind = .lfuda) (hcap : 0 < cfg.cap) (htick : 0 < cfg.tick)
    (nkeys : Nat) (evs : List Event) (hinst : ∀ e ∈ evs, e.inst = 0) (hlog : logOk nkeys evs = true)
    (hacc : l1 cfg nkeys evs = none)
    (i : Nat) (e0 e : Event) (k : Key) (v : Val) (a : Allow) (ttl : Nat)
    (h0 : evs[i]? = some e0) (h1 : evs[i + 1]? = some e)
    (hop : e.op = .insert k v a ttl) (hout : e.out = .bool true)
    (hnew : k ∉ sweepKeys e0) (hfull : e0.obs.size = e0.obs.cap)
    (ht : TimesFrom 0 (opsOf (evs.take (i + 2)))) :
    ∃ (tr : STrace LfudaState) (w : Key),
      CRun Lfuda.core (Lfuda.init cfg.cap cfg.tick cfg.num cfg.den) tr (lfudaAfter cfg evs (i + 1)) ∧
      tr.atoms = (lfudaV cfg.cap hcap cfg.tick cfg.num cfg.den).history (opsOf (evs.take (i + 1))) ∧
      STrace.monotone tr ∧
      (∀ u vu cu, (u, vu, cu) ∈ e0.obs.sweep → cu = (lfudaGhost cfg.cap cfg.tick cfg.num cfg.den tr).cnt u) ∧
      (∀ u ∈ sweepKeys e0,
        ((lfudaGhost cfg.cap cfg.tick cfg.num cfg.den tr).ageAt (sweepKeys e0) (cfg.tick * msNs) cfg.num cfg.den
            e.now).1.cnt w ≤
        ((lfudaGhost cfg.cap cfg.tick cfg.num cfg.den tr).ageAt (sweepKeys e0) (cfg.tick * msNs) cfg.num cfg.den
            e.now).1.cnt u) ∧
      w ∈ sweepKeys e0 ∧ w ≠ k ∧
      ∀ u, u ∈ sweepKeys e ↔ (u ∈ sweepKeys e0 ∧ u ≠ w) ∨ u = k := by
  obtain ⟨tr, s', hrun, hat, hsw, hK0, hstep, hnew', hfull', hE⟩ :=
    evicting_insert_model (plain_lfuda cfg.cap hcap cfg.tick cfg.num cfg.den) (MState.init_lfuda hk) hinst hlog hacc
      h0 h1 hop hout hnew hfull (s := lfudaAfter cfg evs (i + 1)) rfl
  rw [opsOf_take_succ h1] at ht
  have hmono := Lfuda.core.monotone_of_history ht hat (lfudaAfter cfg evs (i + 1))
  obtain ⟨w, hev, hmin⟩ :=
    C14_lfuda_victim cfg.cap cfg.tick cfg.num cfg.den hcap hrun hstep (hmono _) hnew' hfull'
  have hmtr := (STrace.monotone_snoc (hmono .pre)).1
  obtain ⟨T, hord, -⟩ := Lfuda.run_inv cfg.cap cfg.tick cfg.num cfg.den hrun hmtr
  refine ⟨tr, w, hrun, hat, hmtr, fun u vu cu hmem => lfuda_sweep_count hord (hsw ▸ hmem), fun u hu => ?_,
    hE w hev⟩
  rw [ageAt_congr hK0]
  exact hmin u ((hK0 u).1 hu)

/-! ## non-vacuity -/

namespace Example
open Verif.CapstoneOrder.Example

/-- a `tlru_cache` of capacity 2 over the keys 0..2: key 0 is inserted with a 100 ms TTL, key 1 with a 1 ms TTL;
2 ms later key 2 is inserted: key 1 (expired, though more recently used than key 0) goes -/
def evE0 : Event := ev 10 (.insert 0 10 .insertOrUpdate 100) (.bool true) 1 [(0, 10, 0)]
def evE1 : Event := ev 20 (.insert 1 11 .insertOrUpdate 1) (.bool true) 2 [(0, 10, 0), (1, 11, 0)]
def evE2 : Event := ev 2000000 (.insert 2 12 .insertOrUpdate 100) (.bool true) 2 [(0, 10, 0), (2, 12, 0)]

def logE : List Event := [evE0, evE1, evE2]

def cfgE : Cfg := { kind := .tlru, cap := 2 }

theorem logE_accepted : l1 cfgE 3 logE = none := by rfl

theorem logE_expired_first :
    ∃ w, w ≠ 2 ∧
      (∀ u, u ∈ [0, 2] ↔ (u = 2 ∧ 0 < 100) ∨ (u ≠ w ∧ LiveAt (tlruAfter cfgE logE 2) 2000000 u)) ∧
      ∃ en, getE (tlruAfter cfgE logE 2).ents w = some en ∧ en.dl ≤ 2000000 := by
  obtain ⟨_, _, _, w, _, hwk, hall, h16, _⟩ :=
    tlru_insert_observed cfgE rfl (by decide) 3 logE (by decide) (by decide) logE_accepted 1 evE1 evE2 2 12
      .insertOrUpdate 100 rfl rfl rfl rfl (by decide) rfl
  exact ⟨w, hwk, hall, (h16 ⟨{ key := 1, val := 11, dl := 1000020 }, by decide, by decide⟩).1⟩

/-- the removed key is 1: key 0, the least recently used one, is still shown -/
example : ∃ en, getE (tlruAfter cfgE logE 2).ents 1 = some en ∧ en.dl ≤ 2000000 := by
  obtain ⟨w, _, hall, hexp⟩ := logE_expired_first
  have h0 := (hall 0).1 (by simp)
  have : w = 1 := by
    rcases h0 with ⟨h, _⟩ | ⟨hne, _⟩
    · cases h
    · obtain ⟨en, hen, _⟩ := hexp
      have hw : w ∈ keys (tlruAfter cfgE logE 2).ents := mem_keys_of_getE hen
      have hk : keys (tlruAfter cfgE logE 2).ents = [0, 1] := by decide
      rw [hk] at hw
      simp only [List.mem_cons, List.not_mem_nil, or_false] at hw
      rcases hw with rfl | rfl
      · exact absurd rfl hne
      · rfl
  subst this
  exact hexp

/-- the same `tlru_cache`, the clock standing still at 30 after the first insert: nothing has expired, the sweep
after event 1 has `size()` entries, and the insert of key 2 evicts the least recently used key -/
def evH0 : Event := ev 30 (.insert 0 10 .insertOrUpdate 100) (.bool true) 1 [(0, 10, 0)]
def evH1 : Event := ev 30 (.insert 1 11 .insertOrUpdate 100) (.bool true) 2 [(0, 10, 0), (1, 11, 0)]
def evH2 : Event := ev 30 (.insert 2 12 .insertOrUpdate 100) (.bool true) 2 [(1, 11, 0), (2, 12, 0)]

def logH : List Event := [evH0, evH1, evH2]

theorem logH_accepted : l1 cfgE 3 logH = none := by rfl

theorem logH_victim :
    ∃ w, (∀ tr : STrace TlruState, tr.atoms = (tlruV 2 (by decide)).history (opsOf (logH.take 2)) →
            firstIn (useOrder tr) [0, 1] = some w) ∧
      w ∈ [0, 1] ∧ w ≠ 2 ∧ ∀ u, u ∈ [1, 2] ↔ (u ∈ [0, 1] ∧ u ≠ w) ∨ (u = 2 ∧ 0 < 100) :=
  tlru_lru_victim_observed_sameclock cfgE rfl (by decide) 3 logH (by decide) (by decide) logH_accepted 1 evH1 evH2
    2 12 .insertOrUpdate 100 rfl rfl rfl rfl (by decide) rfl rfl rfl

/-- an `rr_cache` of capacity 2 whose mirrored draws are `[1]`: keys 0 and 1 take slots 0 and 1, the insert of
key 2 evicts the entry in slot 1 -/
def evF0 : Event := ev 10 (.insert 0 10 .insertOrUpdate 0) (.bool true) 1 [(0, 10, 0)]
def evF1 : Event := ev 20 (.insert 1 11 .insertOrUpdate 0) (.bool true) 2 [(0, 10, 0), (1, 11, 0)]
def evF2 : Event := ev 30 (.insert 2 12 .insertOrUpdate 0) (.bool true) 2 [(0, 10, 0), (2, 12, 0)]

def logF : List Event := [evF0, evF1, evF2]

def cfgF : Cfg := { kind := .rr, cap := 2, rnd := [1] }

theorem logF_accepted : l1 cfgF 3 logF = none := by rfl

theorem logF_victim :
    ∃ (tr : STrace RrState) (w : Key) (en : Entry),
      CRun Rr.core (Rr.init 2 [1]) tr (rrAfter cfgF logF 2) ∧
      tr.atoms = (rrV 2 (by decide) [1] (by decide)).history (opsOf (logF.take 2)) ∧
      (∀ u, u ∈ [0, 1] ↔ u ∈ keys (rrAfter cfgF logF 2).ents) ∧
      (([1] : List Nat).drop (rrDraws 2 tr)).headD 0 < 2 ∧
      en ∈ (rrAfter cfgF logF 2).ents ∧
      en.slot = (([1] : List Nat).drop (rrDraws 2 tr)).headD 0 ∧
      (∀ e' ∈ (rrAfter cfgF logF 2).ents, e'.slot = (([1] : List Nat).drop (rrDraws 2 tr)).headD 0 → e' = en) ∧
      en.key = w ∧ w ∈ [0, 1] ∧ w ≠ 2 ∧
      ∀ u, u ∈ [0, 2] ↔ (u ∈ [0, 1] ∧ u ≠ w) ∨ u = 2 :=
  rr_victim_observed cfgF rfl (by decide) (by decide) 3 logF (by decide) (by decide) logF_accepted 1 evF1 evF2
    2 12 .insertOrUpdate 0 rfl rfl rfl rfl (by decide) rfl

/-- an `lfuda_cache` (tick 1 ms, ratio 1/2): key 0 is inserted and looked up (count 2); 5 ms later
`dynamically_age()` ages it (count 1) and reports 1 -/
def evG0 : Event := ev 10 (.insert 0 10 .insertOrUpdate 0) (.bool true) 1 [(0, 10, 1)]
def evG1 : Event := ev 20 (.find 0 false) (.opt (some 10)) 1 [(0, 10, 2)]
def evG2 : Event := ev 5000000 .age (.nat 1) 1 [(0, 10, 1)]

def logG : List Event := [evG0, evG1, evG2]

def cfgG : Cfg := { kind := .lfuda, cap := 2, tick := 1, num := 1, den := 2 }

theorem logG_accepted : l1 cfgG 3 logG = none := by rfl

/-- an `lfuda_cache` of capacity 2: key 0 is used twice, key 1 once; the insert of key 2 evicts key 1 -/
def evJ0 : Event := ev 10 (.insert 0 10 .insertOrUpdate 0) (.bool true) 1 [(0, 10, 1)]
def evJ1 : Event := ev 20 (.find 0 false) (.opt (some 10)) 1 [(0, 10, 2)]
def evJ2 : Event := ev 30 (.insert 1 11 .insertOrUpdate 0) (.bool true) 2 [(0, 10, 2), (1, 11, 1)]
def evJ3 : Event := ev 40 (.insert 2 12 .insertOrUpdate 0) (.bool true) 2 [(0, 10, 2), (2, 12, 1)]

def logJ : List Event := [evJ0, evJ1, evJ2, evJ3]

theorem logJ_accepted : l1 cfgG 3 logJ = none := by rfl

theorem logJ_victim :
    ∃ (tr : STrace LfudaState) (w : Key),
      CRun Lfuda.core (Lfuda.init 2 1 1 2) tr (lfudaAfter cfgG logJ 3) ∧
      tr.atoms = (lfudaV 2 (by decide) 1 1 2).history (opsOf (logJ.take 3)) ∧
      STrace.monotone tr ∧
      (∀ u vu cu, (u, vu, cu) ∈ [(0, 10, 2), (1, 11, 1)] → cu = (lfudaGhost 2 1 1 2 tr).cnt u) ∧
      (∀ u ∈ [0, 1],
        ((lfudaGhost 2 1 1 2 tr).ageAt [0, 1] (1 * msNs) 1 2 40).1.cnt w ≤
        ((lfudaGhost 2 1 1 2 tr).ageAt [0, 1] (1 * msNs) 1 2 40).1.cnt u) ∧
      w ∈ [0, 1] ∧ w ≠ 2 ∧
      ∀ u, u ∈ [0, 2] ↔ (u ∈ [0, 1] ∧ u ≠ w) ∨ u = 2 :=
  lfuda_victim_observed cfgG rfl (by decide) (by decide) 3 logJ (by decide) (by decide) logJ_accepted 2 evJ2 evJ3
    2 12 .insertOrUpdate 0 rfl rfl rfl rfl (by decide) rfl ⟨by decide, by decide, by decide, by decide, trivial⟩

theorem logG_times : TimesFrom 0 (opsOf (logG.take 3)) :=
  ⟨by decide, by decide, by decide, trivial⟩

theorem logG_counts :
    ∃ tr : STrace LfudaState,
      CRun Lfuda.core (Lfuda.init 2 1 1 2) tr (lfudaAfter cfgG logG 3) ∧
      tr.atoms = (lfudaV 2 (by decide) 1 1 2).history (opsOf (logG.take 3)) ∧
      STrace.monotone tr ∧
      ∀ u vu cu, (u, vu, cu) ∈ [(0, 10, 1)] → cu = (lfudaGhost 2 1 1 2 tr).cnt u :=
  lfuda_counts_observed cfgG rfl (by decide) 3 logG (by decide) logG_accepted 2 evG2 rfl logG_times

theorem logG_age :
    ∃ tr : STrace LfudaState,
      CRun Lfuda.core (Lfuda.init 2 1 1 2) tr (lfudaAfter cfgG logG 2) ∧
      tr.atoms = (lfudaV 2 (by decide) 1 1 2).history (opsOf (logG.take 2)) ∧
      STrace.monotone tr ∧
      1 = ([0].filter (fun u => decide ((lfudaGhost 2 1 1 2 tr).stamp u + 1 * msNs < 5000000))).length :=
  lfuda_age_observed_sweep cfgG rfl (by decide) 3 logG (by decide) (by decide) logG_accepted 1 evG1 evG2 1
    rfl rfl rfl rfl logG_times

end Example

end Verif.CapstoneOrder2

#print axioms Verif.CapstoneOrder2.ttl_insert_observed
#print axioms Verif.CapstoneOrder2.ttl_lru_victim_observed
#print axioms Verif.CapstoneOrder2.ttl_all_live_iff
#print axioms Verif.CapstoneOrder2.ttl_lru_victim_observed_sameclock
#print axioms Verif.CapstoneOrder2.ttl_expired_first_observed_sameclock
#print axioms Verif.CapstoneOrder2.tlru_insert_observed
#print axioms Verif.CapstoneOrder2.tlru_lru_victim_observed
#print axioms Verif.CapstoneOrder2.tlru_lru_victim_observed_sameclock
#print axioms Verif.CapstoneOrder2.tlru_expired_first_observed_sameclock
#print axioms Verif.CapstoneOrder2.utlru_insert_observed
#print axioms Verif.CapstoneOrder2.utlru_lru_victim_observed
#print axioms Verif.CapstoneOrder2.utlru_lru_victim_observed_sameclock
#print axioms Verif.CapstoneOrder2.utlru_expired_first_observed_sameclock
#print axioms Verif.CapstoneOrder2.rr_rnd_run
#print axioms Verif.CapstoneOrder2.rr_victim_observed
#print axioms Verif.CapstoneOrder2.lfuda_counts_observed
#print axioms Verif.CapstoneOrder2.lfuda_age_observed
#print axioms Verif.CapstoneOrder2.lfuda_age_observed_sweep
#print axioms Verif.CapstoneOrder2.lfuda_victim_observed
#print axioms Verif.CapstoneOrder2.Example.logE_accepted
#print axioms Verif.CapstoneOrder2.Example.logE_expired_first
#print axioms Verif.CapstoneOrder2.Example.logH_victim
#print axioms Verif.CapstoneOrder2.Example.logF_victim
#print axioms Verif.CapstoneOrder2.Example.logJ_victim
#print axioms Verif.CapstoneOrder2.Example.logG_counts
#print axioms Verif.CapstoneOrder2.Example.logG_age
