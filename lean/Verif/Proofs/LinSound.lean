import Verif.Lin
/-!
# The executable linearizability checker (`Verif/Lin.lean`) decides what it is meant to decide

A recorded history is a list of completed operations with invocation / response stamps (one global
atomic counter, so stamps are comparable), the clock reading, the call and its result.  `IsLin m hs lin`:
`lin` is a sequential ordering of the same operations that respects real time and that the container
model, started in `m`, reproduces result by result.  The Wing–Gong search never accepts a
non-linearizable history (`check_sound`) and never rejects a linearizable one (`check_complete`: it
answers `some false` only without exhausting its budget); `none` (budget exhausted) claims nothing.
-/
namespace Verif.Lin
open Verif Verif.Proto

def Legal : MState → List HOp → Prop
  | _, [] => True
  | m, o :: rest => (m.step o.now o.op).2 = o.out ∧ Legal (m.step o.now o.op).1 rest

structure IsLin (m : MState) (hs lin : List HOp) : Prop where
  perm : lin.Perm hs
  /-- if `a` is placed before `b` then `b` did not respond before `a` was invoked -/
  realtime : lin.Pairwise (fun a b => ¬ b.res < a.inv)
  legal : Legal m lin

theorem removeAt_perm {α : Type} {hs : List α} {i : Nat} {o : α} (h : hs[i]? = some o) :
    hs.Perm (o :: removeAt hs i) := by
  induction hs generalizing i with
  | nil => rw [List.getElem?_nil] at h; cases h
  | cons x xs ih =>
    cases i with
    | zero => rw [List.getElem?_cons_zero] at h; cases h; exact .refl _
    | succ i =>
      rw [List.getElem?_cons_succ] at h
      exact ((ih h).cons x).trans (.swap o x _)

theorem removeAt_eq_eraseIdx {α : Type} (hs : List α) (i : Nat) : removeAt hs i = hs.eraseIdx i := by
  induction hs generalizing i with
  | nil => rfl
  | cons x xs ih =>
    cases i with
    | zero => rfl
    | succ i => exact congrArg (x :: ·) (ih i)

theorem mem_removeAt {α : Type} {hs : List α} {i : Nat} {x : α} :
    x ∈ removeAt hs i ↔ ∃ j, j ≠ i ∧ hs[j]? = some x := by
  rw [removeAt_eq_eraseIdx, List.mem_eraseIdx_iff_getElem?]

theorem minimal_iff (hs : List HOp) (i : Nat) (o : HOp) :
    minimal hs i o = true ↔ ∀ j o', hs[j]? = some o' → j ≠ i → o.inv ≤ o'.res := by
  unfold minimal
  simp only [List.all_eq_true, Bool.or_eq_true, beq_iff_eq, decide_eq_true_eq]
  constructor
  · intro h j o' hj hne
    exact (h (o', j) (List.mem_zipIdx_iff_getElem?.2 hj)).resolve_left hne
  · rintro h ⟨o', j⟩ hmem
    exact (Decidable.em (j = i)).imp_right (h j o' (List.mem_zipIdx_iff_getElem?.1 hmem))

/-- the step of the Wing–Gong search, as a fact about `IsLin` -/
theorem isLin_cons_iff {m : MState} {hs lin : List HOp} {o : HOp} {i : Nat} (hi : hs[i]? = some o) :
    IsLin m hs (o :: lin) ↔ minimal hs i o = true ∧ (m.step o.now o.op).2 = o.out ∧
      IsLin (m.step o.now o.op).1 (removeAt hs i) lin := by
  have hperm := removeAt_perm hi
  -- `minimal`, given that `lin` lists exactly the other records
  have hmin : lin.Perm (removeAt hs i) →
      (minimal hs i o = true ↔ ∀ b ∈ lin, ¬ b.res < o.inv) := by
    intro hp
    rw [minimal_iff]
    constructor
    · intro h b hb
      obtain ⟨j, hj, hjb⟩ := mem_removeAt.1 (hp.mem_iff.1 hb)
      exact Nat.not_lt.2 (h j b hjb hj)
    · intro h j o' hj hne
      exact Nat.not_lt.1 (h o' (hp.mem_iff.2 (mem_removeAt.2 ⟨j, hne, hj⟩)))
  constructor
  · rintro ⟨hp, hrt, hout, hleg⟩
    have hp' : lin.Perm (removeAt hs i) := (hp.trans hperm).cons_inv
    rw [List.pairwise_cons] at hrt
    exact ⟨(hmin hp').2 hrt.1, hout, hp', hrt.2, hleg⟩
  · rintro ⟨hm, hout, hp', hrt, hleg⟩
    exact ⟨(hp'.cons o).trans hperm.symm, List.pairwise_cons.2 ⟨(hmin hp').1 hm, hrt⟩, hout, hleg⟩

/-- One candidate of `tryAll`, when there is a verdict (budget exhaustion gives none): it succeeds and the
verdict is `true`, or it fails and the verdict is that of the remaining candidates. -/
theorem tryAll_cons {fuel : Nat} {m : MState} {hs : List HOp} {o : HOp} {i : Nat}
    {rest : List (HOp × Nat)} {used u : Nat} {b : Bool}
    (h : search.tryAll fuel m hs ((o, i) :: rest) used = (some b, u)) :
    ((m.step o.now o.op).2 = o.out ∧ b = true ∧
      ∃ used', search fuel (m.step o.now o.op).1 (removeAt hs i) used' = (some true, u)) ∨
    (((m.step o.now o.op).2 ≠ o.out ∨
        ∃ used' u', search fuel (m.step o.now o.op).1 (removeAt hs i) used' = (some false, u')) ∧
      ∃ used', search.tryAll fuel m hs rest used' = (some b, u)) := by
  rw [search.tryAll.eq_2] at h
  by_cases hbud : used > 3000000
  · rw [if_pos hbud] at h; cases h
  · rw [if_neg hbud] at h
    simp only at h
    by_cases hout : (m.step o.now o.op).2 = o.out
    · rw [if_pos (beq_iff_eq.2 hout)] at h
      split at h
      · next u' hs' => cases h; exact .inl ⟨hout, rfl, _, hs'⟩
      · cases h
      · next u' hs' => exact .inr ⟨.inr ⟨_, _, hs'⟩, _, h⟩
    · rw [if_neg (fun e => hout (beq_iff_eq.1 e))] at h
      exact .inr ⟨.inl hout, _, h⟩

theorem tryAll_true {fuel : Nat} {m : MState} {hs : List HOp} {cs : List (HOp × Nat)} {used u : Nat}
    (h : search.tryAll fuel m hs cs used = (some true, u)) :
    ∃ p ∈ cs, (m.step p.1.now p.1.op).2 = p.1.out ∧
      ∃ used', search fuel (m.step p.1.now p.1.op).1 (removeAt hs p.2) used' = (some true, u) := by
  induction cs generalizing used with
  | nil => rw [search.tryAll.eq_1] at h; cases h
  | cons c rest ih =>
    rcases tryAll_cons h with ⟨hout, _, hsub⟩ | ⟨_, _, hrest⟩
    · exact ⟨c, List.mem_cons_self .., hout, hsub⟩
    · obtain ⟨p, hp, h'⟩ := ih hrest
      exact ⟨p, List.mem_cons_of_mem _ hp, h'⟩

theorem tryAll_false {fuel : Nat} {m : MState} {hs : List HOp} {cs : List (HOp × Nat)} {used u : Nat}
    (h : search.tryAll fuel m hs cs used = (some false, u)) :
    ∀ p ∈ cs, (m.step p.1.now p.1.op).2 ≠ p.1.out ∨
      ∃ used' u', search fuel (m.step p.1.now p.1.op).1 (removeAt hs p.2) used' = (some false, u') := by
  induction cs generalizing used with
  | nil => exact fun _ hp => nomatch hp
  | cons c rest ih =>
    intro p hp
    rcases tryAll_cons h with ⟨_, hb, _⟩ | ⟨hfail, _, hrest⟩
    · cases hb
    · rcases List.mem_cons.1 hp with rfl | hp
      · exact hfail
      · exact ih hrest p hp

/-- the candidates of the search: the records that may go first, with their indices -/
theorem mem_cands {hs : List HOp} {o : HOp} {i : Nat} :
    (o, i) ∈ (hs.zipIdx).filter (fun (o, i) => minimal hs i o) ↔
      hs[i]? = some o ∧ minimal hs i o = true := by
  rw [List.mem_filter, List.mem_zipIdx_iff_getElem?]

theorem search_sound {fuel : Nat} {m : MState} {hs : List HOp} {used u : Nat}
    (h : search fuel m hs used = (some true, u)) : ∃ lin, IsLin m hs lin := by
  induction fuel generalizing m hs used u with
  | zero =>
    cases hs with
    | nil => exact ⟨[], .nil, .nil, trivial⟩
    | cons x xs => rw [search.eq_2 _ _ _ (by simp)] at h; cases h
  | succ fuel ih =>
    cases hs with
    | nil => exact ⟨[], .nil, .nil, trivial⟩
    | cons x xs =>
      rw [search.eq_3 _ _ _ _ (by simp)] at h
      obtain ⟨⟨o, i⟩, hp, hout, used', hsub⟩ := tryAll_true h
      obtain ⟨hi, hmin⟩ := mem_cands.1 hp
      obtain ⟨lin, hl⟩ := ih hsub
      exact ⟨o :: lin, (isLin_cons_iff hi).2 ⟨hmin, hout, hl⟩⟩

theorem search_complete {fuel : Nat} {m : MState} {hs : List HOp} {used u : Nat}
    (hf : hs.length < fuel) (h : search fuel m hs used = (some false, u)) :
    ¬ ∃ lin, IsLin m hs lin := by
  induction fuel generalizing m hs used u with
  | zero => exact nomatch hf
  | succ fuel ih =>
    cases hs with
    | nil => rw [search.eq_1] at h; cases h
    | cons x xs =>
      rintro ⟨lin, hl⟩
      rw [search.eq_3 _ _ _ _ (by simp)] at h
      cases lin with
      | nil => exact absurd hl.perm.length_eq (by simp)
      | cons a lin' =>
        -- the first record of the linearization is a candidate, and the loop tried it
        obtain ⟨i, hi⟩ := List.mem_iff_getElem?.1 (hl.perm.mem_iff.1 (List.mem_cons_self ..))
        obtain ⟨hmin, hout, hl'⟩ := (isLin_cons_iff hi).1 hl
        rcases tryAll_false h (a, i) (mem_cands.2 ⟨hi, hmin⟩) with hne | ⟨used', u', hsub⟩
        · exact hne hout
        · have hlen : (x :: xs).length = (removeAt (x :: xs) i).length + 1 := (removeAt_perm hi).length_eq
          rw [hlen] at hf
          exact ih (Nat.lt_of_succ_lt_succ hf) hsub ⟨lin', hl'⟩

theorem check_sound (cfg : Cfg) (hs : List HOp) (u : Nat) (h : check cfg hs = (some true, u)) :
    ∃ lin, IsLin (MState.init cfg) hs lin :=
  search_sound h

theorem check_complete (cfg : Cfg) (hs : List HOp) (u : Nat) (h : check cfg hs = (some false, u)) :
    ¬ ∃ lin, IsLin (MState.init cfg) hs lin :=
  search_complete (Nat.lt_succ_self _) h

end Verif.Lin
