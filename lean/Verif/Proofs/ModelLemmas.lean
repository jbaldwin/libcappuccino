import Verif.Model.All
import Verif.ListLemmas
/-!
# What the L1 model functions compute, case by case

`insert1`, `find1`, `erase1` on an absent and on a resident key: one equation per branch of the `match` on `getE`,
so that a proof rewrites with the case it is in.  Not `Fifo.find1` and `Rr.find1`, which are no `match` (they unfold
to their value), and not ut_map, whose primitives are short.  `prune`, `clean` and `purge` by the heads of their
lists; the filing functions `fileCnt` / `Tlru.fileDl` in the normal form of `file_eq`.
-/
namespace Verif

/-! ## the answer of a branch

Every branch of a single-key primitive returns the state it was given or reports success, and `do_insert_update`
ends in `if allowed then (s', true) else (s, false)`: the answer says which way the call went.  The `fst_of_*` take the
case equation `e` of the call, so that they apply to a goal about the call itself. -/

theorem allowed_of_accepted {α : Type} {c : Prop} [Decidable c] {t s : α}
    (h : true = (if c then (t, true) else (s, false)).2) : c :=
  Decidable.byContradiction fun hc => by rw [if_neg hc] at h; cases h

theorem fst_of_rejected {σ : Type} {r : σ × Bool} {c : Prop} [Decidable c] {x s : σ}
    (e : r = if c then (x, true) else (s, false)) (h : r.2 = false) : r.1 = s := by
  by_cases hc : c
  · rw [e, if_pos hc] at h; cases h
  · rw [e, if_neg hc]

theorem fst_of_accepted {σ : Type} {r : σ × Bool} {x s : σ} (e : r = (x, true)) (h : r.2 = false) :
    r.1 = s := by
  rw [e] at h; cases h

theorem fst_of_found {σ β : Type} {r : σ × Option β} {x s : σ} {y : β} (e : r = (x, some y))
    (h : r.2 = none) : r.1 = s := by
  rw [e] at h; cases h

/-- the nested test of `do_insert_update` on a resident key as one condition -/
theorem ite_or_and {α : Type} {a b c : Prop} [Decidable a] [Decidable b] [Decidable c] (x y : α) :
    (if a then x else if b then (if c then x else y) else y) = if a ∨ (b ∧ c) then x else y := by
  by_cases h1 : a
  · rw [if_pos h1, if_pos (Or.inl h1)]
  · rw [if_neg h1]
    by_cases h2 : b
    · rw [if_pos h2]
      by_cases h3 : c
      · rw [if_pos h3, if_pos (Or.inr ⟨h2, h3⟩)]
      · rw [if_neg h3, if_neg (fun o => o.elim h1 (fun o => h3 o.2))]
    · rw [if_neg h2, if_neg (fun o => o.elim h1 (fun o => h2 o.1))]

theorem Rec.insert1_none {vic : Rec.Victim} {t : RecState} {k : Key} (hg : getE t.ents k = none)
    (v : Val) (a : Allow) :
    Rec.insert1 vic t k v a =
      if a.ins then
        ({ t with ents := (if t.ents.length ≥ t.cap then Rec.prune vic t.ents else t.ents) ++ [{ key := k, val := v }] }, true)
      else (t, false) := by
  simp only [Rec.insert1, hg]

theorem Rec.insert1_some {vic : Rec.Victim} {t : RecState} {k : Key} {e : Entry}
    (hg : getE t.ents k = some e) (v : Val) (a : Allow) :
    Rec.insert1 vic t k v a =
      if a.upd then ({ t with ents := Rec.touch t.ents { e with val := v } }, true) else (t, false) := by
  simp only [Rec.insert1, hg]

theorem Rec.find1_none {t : RecState} {k : Key} (hg : getE t.ents k = none) (peek : Bool) :
    Rec.find1 t k peek = (t, none) := by
  simp only [Rec.find1, hg]

theorem Rec.find1_some {t : RecState} {k : Key} {e : Entry} (hg : getE t.ents k = some e) (peek : Bool) :
    Rec.find1 t k peek = (if peek then t else { t with ents := Rec.touch t.ents e }, some (e.val, 0)) := by
  simp only [Rec.find1, hg]

theorem Rec.erase1_none {t : RecState} {k : Key} (hg : getE t.ents k = none) :
    Rec.erase1 t k = (t, false) := by
  simp only [Rec.erase1, hg]

theorem Rec.erase1_some {t : RecState} {k : Key} {e : Entry} (hg : getE t.ents k = some e) :
    Rec.erase1 t k = ({ t with ents := delE t.ents k }, true) := by
  simp only [Rec.erase1, hg]

theorem Fifo.insert1_none {t : FifoState} {k : Key} (hg : getE t.ents k = none) (v : Val) (a : Allow) :
    Fifo.insert1 t k v a =
      if a.ins then
        ({ t with ents := (if t.ents.length ≥ t.cap then t.ents.tail else t.ents) ++ [{ key := k, val := v }] }, true)
      else (t, false) := by
  simp only [Fifo.insert1, hg]

theorem Fifo.insert1_some {t : FifoState} {k : Key} {e : Entry} (hg : getE t.ents k = some e)
    (v : Val) (a : Allow) :
    Fifo.insert1 t k v a =
      if a.upd then ({ t with ents := Fifo.setVal t.ents k v }, true) else (t, false) := by
  simp only [Fifo.insert1, hg]

theorem Fifo.erase1_none {t : FifoState} {k : Key} (hg : getE t.ents k = none) :
    Fifo.erase1 t k = (t, false) := by
  simp only [Fifo.erase1, hg]

theorem Fifo.erase1_some {t : FifoState} {k : Key} {e : Entry} (hg : getE t.ents k = some e) :
    Fifo.erase1 t k = ({ t with ents := delE t.ents k }, true) := by
  simp only [Fifo.erase1, hg]

theorem Rr.prune_some {s : RrState} {e : Entry} (hat : Rr.atSlot s.ents (s.rnd.headD 0) = some e) :
    Rr.prune s = { s with ents := delE s.ents e.key, free := s.rnd.headD 0 :: s.free, rnd := s.rnd.tail } := by
  simp only [Rr.prune, hat]

/-- the creating branch of the L1 `Rr.insert1` -/
def Rr.pushed (t : RrState) (k : Key) (v : Val) : RrState :=
  { t with ents := t.ents ++ [{ key := k, val := v, slot := t.free.headD 0 }], free := t.free.tail }

theorem Rr.insert1_none {t : RrState} {k : Key} (hg : getE t.ents k = none) (v : Val) (a : Allow) :
    Rr.insert1 t k v a =
      if a.ins then (Rr.pushed (if t.ents.length ≥ t.cap then Rr.prune t else t) k v, true) else (t, false) := by
  simp only [Rr.insert1, hg, Rr.pushed]

theorem Rr.insert1_some {t : RrState} {k : Key} {e : Entry} (hg : getE t.ents k = some e) (v : Val) (a : Allow) :
    Rr.insert1 t k v a = if a.upd then ({ t with ents := Rr.setVal t.ents k v }, true) else (t, false) := by
  simp only [Rr.insert1, hg]

theorem Rr.erase1_none {t : RrState} {k : Key} (hg : getE t.ents k = none) : Rr.erase1 t k = (t, false) := by
  simp only [Rr.erase1, hg]

theorem Rr.erase1_some {t : RrState} {k : Key} {e : Entry} (hg : getE t.ents k = some e) :
    Rr.erase1 t k = ({ t with ents := delE t.ents k, free := e.slot :: t.free }, true) := by
  simp only [Rr.erase1, hg]

theorem fileCnt_eq (l : List Entry) (e : Entry) :
    fileCnt l e = l.takeWhile (fun y => decide (y.cnt ≤ e.cnt)) ++ e :: l.dropWhile (fun y => decide (y.cnt ≤ e.cnt)) :=
  file_eq (fileCnt · e) (fun y => y.cnt ≤ e.cnt) rfl (fun _ _ => rfl) l

theorem fileCnt_perm (l : List Entry) (e : Entry) : (fileCnt l e).Perm (e :: l) := by
  rw [fileCnt_eq]; exact file_perm l e

theorem length_fileCnt (l : List Entry) (e : Entry) : (fileCnt l e).length = l.length + 1 := by
  simpa using (fileCnt_perm l e).length_eq

theorem mem_fileCnt {l : List Entry} {e x : Entry} : x ∈ fileCnt l e ↔ x = e ∨ x ∈ l := by
  rw [(fileCnt_perm l e).mem_iff, List.mem_cons]

theorem mem_keys_fileCnt {l : List Entry} {e : Entry} {x : Key} :
    x ∈ keys (fileCnt l e) ↔ x = e.key ∨ x ∈ keys l := by
  rw [(keys_perm (fileCnt_perm l e)).mem_iff, keys_cons, List.mem_cons]

theorem nodup_keys_fileCnt {l : List Entry} (hn : (keys l).Nodup) {e : Entry}
    (he : e.key ∉ keys l) : (keys (fileCnt l e)).Nodup :=
  nodup_keys_place hn (place_of_fresh (getE_eq_none_iff.mpr he) (fileCnt_perm l e))

theorem Lfu.insert1_none {t : LfuState} {k : Key} (hg : getE t.ents k = none) (v : Val) (a : Allow) :
    Lfu.insert1 t k v a =
      if a.ins then
        ({ t with ents := (fileCnt (if t.ents.length ≥ t.cap then t.ents.tail else t.ents)
            { key := k, val := v, cnt := 1 }) }, true)
      else (t, false) := by
  simp only [Lfu.insert1, hg]

theorem Lfu.insert1_some {t : LfuState} {k : Key} {e : Entry} (hg : getE t.ents k = some e) (v : Val)
    (a : Allow) :
    Lfu.insert1 t k v a =
      if a.upd then ({ t with ents := Lfu.access t.ents { e with val := v } }, true) else (t, false) := by
  simp only [Lfu.insert1, hg]

theorem Lfu.find1_none {t : LfuState} {k : Key} (hg : getE t.ents k = none) (peek : Bool) :
    Lfu.find1 t k peek = (t, none) := by
  simp only [Lfu.find1, hg]

theorem Lfu.find1_some {t : LfuState} {k : Key} {e : Entry} (hg : getE t.ents k = some e) (peek : Bool) :
    Lfu.find1 t k peek =
      if peek then (t, some (e.val, e.cnt))
      else ({ t with ents := Lfu.access t.ents e }, some (e.val, e.cnt + 1)) := by
  simp only [Lfu.find1, hg]

theorem Lfu.erase1_none {t : LfuState} {k : Key} (hg : getE t.ents k = none) :
    Lfu.erase1 t k = (t, false) := by
  simp only [Lfu.erase1, hg]

theorem Lfu.erase1_some {t : LfuState} {k : Key} {e : Entry} (hg : getE t.ents k = some e) :
    Lfu.erase1 t k = ({ t with ents := delE t.ents k }, true) := by
  simp only [Lfu.erase1, hg]

/-- the creating branch of the L1 `Lfuda.insert1` -/
def Lfuda.pushed (t : LfudaState) (now : Time) (k : Key) (v : Val) : LfudaState :=
  { t with ents := fileCnt t.ents { key := k, val := v, cnt := 1, stamp := now }, age := t.age ++ [k] }

theorem Lfuda.insert1_none {t : LfudaState} {k : Key} (hg : getE t.ents k = none) (now : Time)
    (v : Val) (a : Allow) :
    Lfuda.insert1 t now k v a =
      if a.ins then (Lfuda.pushed (if t.ents.length ≥ t.cap then Lfuda.prune t now else t) now k v, true)
      else (t, false) := by
  simp only [Lfuda.insert1, hg, Lfuda.pushed]

theorem Lfuda.insert1_some {t : LfudaState} {k : Key} {e : Entry} (hg : getE t.ents k = some e)
    (now : Time) (v : Val) (a : Allow) :
    Lfuda.insert1 t now k v a =
      if a.upd then (Lfuda.access t { e with val := v } now, true) else (t, false) := by
  simp only [Lfuda.insert1, hg]

theorem Lfuda.find1_none {t : LfudaState} {k : Key} (hg : getE t.ents k = none) (now : Time)
    (peek : Bool) : Lfuda.find1 t now k peek = (t, none) := by
  simp only [Lfuda.find1, hg]

theorem Lfuda.find1_some {t : LfudaState} {k : Key} {e : Entry} (hg : getE t.ents k = some e)
    (now : Time) (peek : Bool) :
    Lfuda.find1 t now k peek =
      if peek then (t, some (e.val, e.cnt)) else (Lfuda.access t e now, some (e.val, e.cnt + 1)) := by
  simp only [Lfuda.find1, hg]

theorem Lfuda.erase1_none {t : LfudaState} {k : Key} (hg : getE t.ents k = none) :
    Lfuda.erase1 t k = (t, false) := by
  simp only [Lfuda.erase1, hg]

theorem Lfuda.erase1_some {t : LfudaState} {k : Key} {e : Entry} (hg : getE t.ents k = some e) :
    Lfuda.erase1 t k = (Lfuda.removeKey t k, true) := by
  simp only [Lfuda.erase1, hg]

theorem Lfuda.prune_cons {s : LfudaState} {now : Time} {e : Entry} {t : List Entry}
    (h : (Lfuda.dynAge s now).1.ents = e :: t) :
    Lfuda.prune s now = Lfuda.removeKey (Lfuda.dynAge s now).1 e.key := by simp only [Lfuda.prune, h]

theorem Lfuda.prune_nil {s : LfudaState} {now : Time} (h : (Lfuda.dynAge s now).1.ents = []) :
    Lfuda.prune s now = (Lfuda.dynAge s now).1 := by simp only [Lfuda.prune, h]

namespace Tlru

theorem fileDl_eq (l : List (Time × Key)) (d : Time) (k : Key) :
    fileDl l d k = l.takeWhile (fun x => decide (x.1 ≤ d)) ++ (d, k) :: l.dropWhile (fun x => decide (x.1 ≤ d)) :=
  file_eq (fileDl · d k) (fun x => x.1 ≤ d) rfl (fun _ _ => rfl) l

theorem fileDl_perm (l : List (Time × Key)) (d : Time) (k : Key) :
    (fileDl l d k).Perm ((d, k) :: l) := by
  rw [fileDl_eq]
  exact file_perm l (d, k)

theorem mem_fileDl {l : List (Time × Key)} {d : Time} {k : Key} {x : Time × Key} :
    x ∈ fileDl l d k ↔ x = (d, k) ∨ x ∈ l := by
  rw [(fileDl_perm l d k).mem_iff, List.mem_cons]

theorem fileDl_sorted {l : List (Time × Key)} (h : l.Pairwise (fun x y => x.1 ≤ y.1))
    (d : Time) (k : Key) : (fileDl l d k).Pairwise (fun x y => x.1 ≤ y.1) := by
  rw [fileDl_eq]
  exact file_sorted (·.1) h (d, k)

/-- the creating branch of the L1 `insert1` -/
def pushed (t : TlruState) (k : Key) (v : Val) (d : Time) : TlruState :=
  { t with ents := t.ents ++ [{ key := k, val := v, dl := d }], tq := fileDl t.tq d k }

theorem insert1_none {t : TlruState} {k : Key} (hg : getE t.ents k = none) (now : Time)
    (v : Val) (a : Allow) (d : Time) :
    insert1 t now k v a d =
      if a.ins then (pushed (if t.ents.length ≥ t.cap then prune t now else t) k v d, true)
      else (t, false) := by
  simp only [insert1, hg, pushed]

theorem insert1_some {t : TlruState} {k : Key} {e : Entry} (hg : getE t.ents k = some e) (now : Time)
    (v : Val) (a : Allow) (d : Time) :
    insert1 t now k v a d =
      if a.upd = true ∨ (a.ins = true ∧ e.dl ≤ now) then (update t e v d, true) else (t, false) := by
  simp only [insert1, hg]
  exact ite_or_and _ _

theorem find1_none {t : TlruState} {k : Key} (hg : getE t.ents k = none) (now : Time)
    (peek : Bool) : find1 t now k peek = (t, none) := by
  simp only [find1, hg]

theorem find1_some {t : TlruState} {k : Key} {e : Entry} (hg : getE t.ents k = some e)
    (now : Time) (peek : Bool) :
    find1 t now k peek =
      if now < e.dl then (if peek then t else { t with ents := delE t.ents k ++ [e] }, some (e.val, 0))
      else (removeKey t k, none) := by
  simp only [find1, hg]

theorem erase1_none {t : TlruState} {k : Key} (hg : getE t.ents k = none) :
    erase1 t k = (t, false) := by
  simp only [erase1, hg]

theorem erase1_some {t : TlruState} {k : Key} {e : Entry} (hg : getE t.ents k = some e) :
    erase1 t k = (removeKey t k, true) := by
  simp only [erase1, hg]

theorem prune_nil {s : TlruState} (hq : s.tq = []) (now : Time) : prune s now = s := by
  simp only [prune, hq]

theorem prune_cons {s : TlruState} {d : Time} {k : Key} {rest : List (Time × Key)} {e0 : Entry}
    {t : List Entry} (hq : s.tq = (d, k) :: rest) (he : s.ents = e0 :: t) (now : Time) :
    prune s now = removeKey s (if d ≤ now then k else e0.key) := by
  simp only [prune, hq, he]
  split <;> rfl

theorem prune_cons_le {t : TlruState} {now d : Time} {k : Key} {rest : List (Time × Key)}
    (hq : t.tq = (d, k) :: rest) (hd : d ≤ now) : prune t now = removeKey t k := by
  simp only [prune, hq, hd, if_true]

theorem clean_nil {t : TlruState} (hq : t.tq = []) (now : Time) : clean t now = (t, 0) := by
  simp only [clean, hq, cleanLoop, List.foldl_nil, List.length_nil]

theorem clean_cons_gt {t : TlruState} {now d : Time} {k : Key} {rest : List (Time × Key)}
    (hq : t.tq = (d, k) :: rest) (hd : ¬ d ≤ now) : clean t now = (t, 0) := by
  simp only [clean, hq, cleanLoop, hd, if_false, List.foldl_nil, List.length_nil]

/-- one round of `clean`; `hr`: with the expired head gone the queue is its tail, so the loop goes on from there -/
theorem clean_cons_le {t : TlruState} {now d : Time} {k : Key} {rest : List (Time × Key)}
    (hq : t.tq = (d, k) :: rest) (hd : d ≤ now) (hr : (removeKey t k).tq = rest) :
    clean t now = ((clean (removeKey t k) now).1, (clean (removeKey t k) now).2 + 1) := by
  simp only [clean, hq, cleanLoop, hd, if_true, List.foldl_cons, List.length_cons, hr]

end Tlru

theorem UtMap.purge_cons_le {e : Entry} {t : List Entry} {now : Time} (h : e.dl ≤ now) :
    UtMap.purge (e :: t) now = UtMap.purge t now := by
  simp [UtMap.purge, h]

theorem UtMap.purge_cons_gt {e : Entry} {t : List Entry} {now : Time} (h : ¬ e.dl ≤ now) :
    UtMap.purge (e :: t) now = e :: t := by
  simp [UtMap.purge, h]

theorem UtMap.purged_cons_le {e : Entry} {t : List Entry} {now : Time} (h : e.dl ≤ now) :
    UtMap.purged (e :: t) now = UtMap.purged t now + 1 := by
  simp [UtMap.purged, h]

theorem UtMap.purged_cons_gt {e : Entry} {t : List Entry} {now : Time} (h : ¬ e.dl ≤ now) :
    UtMap.purged (e :: t) now = 0 := by
  simp [UtMap.purged, h]

/-! ## `MState.init` by kind

`MState.init` is a `match` on the configured kind; a proof about one kind of container rewrites with its case. -/

theorem MState.init_lru {cfg : Cfg} (hk : cfg.kind = .lru) : MState.init cfg = .lru (Rec.init cfg.cap) := by
  simp only [MState.init, hk]
theorem MState.init_mru {cfg : Cfg} (hk : cfg.kind = .mru) : MState.init cfg = .mru (Rec.init cfg.cap) := by
  simp only [MState.init, hk]
theorem MState.init_fifo {cfg : Cfg} (hk : cfg.kind = .fifo) : MState.init cfg = .fifo (Fifo.init cfg.cap) := by
  simp only [MState.init, hk]
theorem MState.init_rr {cfg : Cfg} (hk : cfg.kind = .rr) : MState.init cfg = .rr (Rr.init cfg.cap cfg.rnd) := by
  simp only [MState.init, hk]
theorem MState.init_lfu {cfg : Cfg} (hk : cfg.kind = .lfu) : MState.init cfg = .lfu (Lfu.init cfg.cap) := by
  simp only [MState.init, hk]
theorem MState.init_lfuda {cfg : Cfg} (hk : cfg.kind = .lfuda) :
    MState.init cfg = .lfuda (Lfuda.init cfg.cap cfg.tick cfg.num cfg.den) := by
  simp only [MState.init, hk]
theorem MState.init_tlru {cfg : Cfg} (hk : cfg.kind = .tlru) : MState.init cfg = .tlru (Tlru.init cfg.cap) := by
  simp only [MState.init, hk]
theorem MState.init_utlru {cfg : Cfg} (hk : cfg.kind = .utlru) :
    MState.init cfg = .utlru (Utlru.init cfg.cap cfg.ttl) := by
  simp only [MState.init, hk]
theorem MState.init_utmap {cfg : Cfg} (hk : cfg.kind = .utmap ∨ cfg.kind = .utset) :
    MState.init cfg = .utmap (UtMap.init cfg.ttl) := by
  rcases hk with hk | hk <;> simp only [MState.init, hk]

end Verif
