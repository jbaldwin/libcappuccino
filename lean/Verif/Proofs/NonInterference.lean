import Verif.Proofs.Refine.TlruLemmas
/-!
# C19 (non-interference) on the models

A lookup with peek requested, a lookup that misses, an insert rejected by its allow mode and an erase
of an absent key leave the model state unchanged (the six caches without TTL), change it at most by
removing entries that had already expired (tlru, utlru), or do exactly what the per-call prologue
does (ut_map / ut_set).  For the six the state is the same, so every later operation returns the same;
for the TTL containers that continuation is BisimTlru.lean / BisimUt.lean.
-/
namespace Verif

/-- a call that, judged by its own result, had no effect; no range result is read, so a non-peek
`findRange` counts as having one even when every key misses -/
def NoEffect {σ : Type} (c : Core σ) (s : σ) (now : Time) : Op → Prop
  | .find _ true => True
  | .findCount _ true => True
  | .findRange _ true => True
  | .find k false => (c.step s now (.find k false)).2 = .opt none
  | .findCount k false => (c.step s now (.findCount k false)).2 = .optc none
  | .insert k v a ttl => (c.step s now (.insert k v a ttl)).2 = .bool false
  | .erase k => (c.step s now (.erase k)).2 = .bool false
  | _ => False

namespace Core
variable {σ : Type} (c : Core σ)

/-- `R`: any preorder on states (equality for the caches without TTL, `OnlyExpiredGone` for tlru/utlru).
The one place where the forms of `NoEffect` are gone through. -/
theorem noEffect_rel (now : Time) (R : σ → σ → Prop) (refl : ∀ s, R s s)
    (trans : ∀ {a b d}, R a b → R b d → R a d)
    (find : ∀ s k peek, (peek = true ∨ (c.find1 s now k peek).2 = none) → R s (c.find1 s now k peek).1)
    (ins : ∀ s k v a ttl, (c.insert1 s now k v a ttl).2 = false → R s (c.insert1 s now k v a ttl).1)
    (del : ∀ s k, (c.erase1 s k).2 = false → R s (c.erase1 s k).1)
    (s : σ) (op : Op) (h : NoEffect c s now op) : R (c.pre s now) (c.step s now op).1 := by
  cases op with
  | find k peek =>
    refine find _ k peek ?_
    cases peek with
    | true => exact Or.inl rfl
    | false => exact Or.inr (Option.map_eq_none_iff.mp (Out.opt.inj h))
  | findCount k peek =>
    refine find _ k peek ?_
    cases peek with
    | true => exact Or.inl rfl
    | false => exact Or.inr (Out.optc.inj h)
  | findRange ks peek =>
    cases peek with
    | false => exact h.elim
    | true =>
      show R (c.pre s now) (c.findMany (c.pre s now) now true ks).1
      clear h
      generalize c.pre s now = s0
      induction ks generalizing s0 with
      | nil => exact refl s0
      | cons k ks ih => exact trans (find s0 k true (Or.inl rfl)) (ih _)
  | insert k v a ttl => exact ins _ k v a ttl (Out.bool.inj h)
  | erase k => exact del _ k (Out.bool.inj h)
  | _ => exact h.elim

/-- What makes C19 an equation of states: each primitive, when its own result says "no effect", returns the
state it was given.  (`pre` is `Core.PreTrivial` of Twin.lean.) -/
structure Inert : Prop where
  pre : ∀ s now, c.pre s now = s
  findPeek : ∀ s now k, (c.find1 s now k true).1 = s
  findMiss : ∀ s now k, (c.find1 s now k false).2 = none → (c.find1 s now k false).1 = s
  insertRej : ∀ s now k v a ttl, (c.insert1 s now k v a ttl).2 = false → (c.insert1 s now k v a ttl).1 = s
  eraseMiss : ∀ s k, (c.erase1 s k).2 = false → (c.erase1 s k).1 = s

theorem noEffect_state_eq (hi : c.Inert) (s : σ) (now : Time) (op : Op) (h : NoEffect c s now op) :
    (c.step s now op).1 = s := by
  -- `R a b := b = a`: the way round the fields of `Inert` are stated
  have := c.noEffect_rel now (fun a b => b = a) (fun _ => rfl) (fun h1 h2 => h2.trans h1)
    (fun s k peek hp => by
      cases peek with
      | true => exact hi.findPeek s now k
      | false => exact hi.findMiss s now k (hp.resolve_left Bool.false_ne_true))
    (fun s k v a ttl => hi.insertRej s now k v a ttl) hi.eraseMiss s op h
  rwa [hi.pre] at this

end Core

theorem Rec.inert (vic : Rec.Victim) : (Rec.core vic).Inert where
  pre _ _ := rfl
  findPeek s _ k := by
    cases hg : getE s.ents k with
    | none => exact congrArg Prod.fst (Rec.find1_none hg true)
    | some e => exact congrArg Prod.fst (Rec.find1_some hg true)
  findMiss s _ k := by
    cases hg : getE s.ents k with
    | none => exact fun _ => congrArg Prod.fst (Rec.find1_none hg false)
    | some e => exact fst_of_found (Rec.find1_some hg false)
  insertRej s _ k v a _ := by
    cases hg : getE s.ents k with
    | none => exact fst_of_rejected (Rec.insert1_none hg v a)
    | some e => exact fst_of_rejected (Rec.insert1_some hg v a)
  eraseMiss s k := by
    cases hg : getE s.ents k with
    | none => exact fun _ => congrArg Prod.fst (Rec.erase1_none hg)
    | some e => exact fst_of_accepted (Rec.erase1_some hg)

theorem Fifo.inert : Fifo.core.Inert where
  pre _ _ := rfl
  findPeek _ _ _ := rfl
  findMiss _ _ _ _ := rfl
  insertRej s _ k v a _ := by
    cases hg : getE s.ents k with
    | none => exact fst_of_rejected (Fifo.insert1_none hg v a)
    | some e => exact fst_of_rejected (Fifo.insert1_some hg v a)
  eraseMiss s k := by
    cases hg : getE s.ents k with
    | none => exact fun _ => congrArg Prod.fst (Fifo.erase1_none hg)
    | some e => exact fst_of_accepted (Fifo.erase1_some hg)

theorem Rr.inert : Rr.core.Inert where
  pre _ _ := rfl
  findPeek _ _ _ := rfl
  findMiss _ _ _ _ := rfl
  insertRej s _ k v a _ := by
    cases hg : getE s.ents k with
    | none => exact fst_of_rejected (Rr.insert1_none hg v a)
    | some e => exact fst_of_rejected (Rr.insert1_some hg v a)
  eraseMiss s k := by
    cases hg : getE s.ents k with
    | none => exact fun _ => congrArg Prod.fst (Rr.erase1_none hg)
    | some e => exact fst_of_accepted (Rr.erase1_some hg)

theorem Lfu.inert : Lfu.core.Inert where
  pre _ _ := rfl
  findPeek s _ k := by
    cases hg : getE s.ents k with
    | none => exact congrArg Prod.fst (Lfu.find1_none hg true)
    | some e => exact congrArg Prod.fst (Lfu.find1_some hg true)
  findMiss s _ k := by
    cases hg : getE s.ents k with
    | none => exact fun _ => congrArg Prod.fst (Lfu.find1_none hg false)
    | some e => exact fst_of_found (Lfu.find1_some hg false)
  insertRej s _ k v a _ := by
    cases hg : getE s.ents k with
    | none => exact fst_of_rejected (Lfu.insert1_none hg v a)
    | some e => exact fst_of_rejected (Lfu.insert1_some hg v a)
  eraseMiss s k := by
    cases hg : getE s.ents k with
    | none => exact fun _ => congrArg Prod.fst (Lfu.erase1_none hg)
    | some e => exact fst_of_accepted (Lfu.erase1_some hg)

theorem Lfuda.inert : Lfuda.core.Inert where
  pre _ _ := rfl
  findPeek s now k := by
    cases hg : getE s.ents k with
    | none => exact congrArg Prod.fst (Lfuda.find1_none hg now true)
    | some e => exact congrArg Prod.fst (Lfuda.find1_some hg now true)
  findMiss s now k := by
    cases hg : getE s.ents k with
    | none => exact fun _ => congrArg Prod.fst (Lfuda.find1_none hg now false)
    | some e => exact fst_of_found (Lfuda.find1_some hg now false)
  insertRej s now k v a _ := by
    cases hg : getE s.ents k with
    | none => exact fst_of_rejected (Lfuda.insert1_none hg now v a)
    | some e => exact fst_of_rejected (Lfuda.insert1_some hg now v a)
  eraseMiss s k := by
    cases hg : getE s.ents k with
    | none => exact fun _ => congrArg Prod.fst (Lfuda.erase1_none hg)
    | some e => exact fst_of_accepted (Lfuda.erase1_some hg)

theorem C19_lru (s : RecState) (now : Time) (op : Op) (h : NoEffect Lru.core s now op) :
    (Lru.core.step s now op).1 = s :=
  Core.noEffect_state_eq _ (Rec.inert .oldest) s now op h

theorem C19_mru (s : RecState) (now : Time) (op : Op) (h : NoEffect Mru.core s now op) :
    (Mru.core.step s now op).1 = s :=
  Core.noEffect_state_eq _ (Rec.inert .newest) s now op h

theorem C19_fifo (s : FifoState) (now : Time) (op : Op) (h : NoEffect Fifo.core s now op) :
    (Fifo.core.step s now op).1 = s :=
  Core.noEffect_state_eq _ Fifo.inert s now op h

theorem C19_rr (s : RrState) (now : Time) (op : Op) (h : NoEffect Rr.core s now op) :
    (Rr.core.step s now op).1 = s :=
  Core.noEffect_state_eq _ Rr.inert s now op h

theorem C19_lfu (s : LfuState) (now : Time) (op : Op) (h : NoEffect Lfu.core s now op) :
    (Lfu.core.step s now op).1 = s :=
  Core.noEffect_state_eq _ Lfu.inert s now op h

theorem C19_lfuda (s : LfudaState) (now : Time) (op : Op) (h : NoEffect Lfuda.core s now op) :
    (Lfuda.core.step s now op).1 = s :=
  Core.noEffect_state_eq _ Lfuda.inert s now op h

namespace Tlru

/-- `s'` is `s` without some keys whose entries had expired at `now`: all a no-effect call may do to tlru / utlru,
which drop an expired entry when a lookup meets it. -/
def OnlyExpiredGone (s : TlruState) (now : Time) (s' : TlruState) : Prop :=
  ∃ ks : List Key, (∀ k ∈ ks, ∃ e, getE s.ents k = some e ∧ e.dl ≤ now) ∧ s' = ks.foldl removeKey s

theorem OnlyExpiredGone.refl (s : TlruState) (now : Time) : OnlyExpiredGone s now s :=
  ⟨[], fun _ hk => absurd hk List.not_mem_nil, rfl⟩

theorem find1_onlyExpiredGone (s : TlruState) (now : Time) (k : Key) (peek : Bool)
    (h : peek = true ∨ (find1 s now k peek).2 = none) :
    OnlyExpiredGone s now (find1 s now k peek).1 := by
  cases hg : getE s.ents k with
  | none => rw [find1_none hg]; exact .refl s now
  | some e =>
    rw [find1_some hg] at h ⊢
    by_cases hd : now < e.dl
    · rw [if_pos hd] at h ⊢
      rcases h with rfl | h
      · exact .refl s now
      · cases h
    · rw [if_neg hd]
      exact ⟨[k], fun k' hk' => List.mem_singleton.mp hk' ▸ ⟨e, hg, Nat.le_of_not_lt hd⟩, rfl⟩

theorem OnlyExpiredGone.trans {now : Time} {a b d : TlruState} (h1 : OnlyExpiredGone a now b)
    (h2 : OnlyExpiredGone b now d) : OnlyExpiredGone a now d := by
  obtain ⟨ks1, hk1, rfl⟩ := h1
  obtain ⟨ks2, hk2, rfl⟩ := h2
  refine ⟨ks1 ++ ks2, ?_, (List.foldl_append ..).symm⟩
  intro k hk
  rcases List.mem_append.mp hk with hk | hk
  · exact hk1 k hk
  · obtain ⟨e, he, hd⟩ := hk2 k hk
    exact ⟨e, getE_of_getE_foldl_removeKey he, hd⟩

theorem insert1_rej {s : TlruState} {now : Time} {k : Key} {v : Val} {a : Allow} {d : Time}
    (h : (insert1 s now k v a d).2 = false) : (insert1 s now k v a d).1 = s := by
  cases hg : getE s.ents k with
  | none => exact fst_of_rejected (insert1_none hg now v a d) h
  | some e => exact fst_of_rejected (insert1_some hg now v a d) h

theorem erase1_miss {s : TlruState} {k : Key} (h : (erase1 s k).2 = false) : (erase1 s k).1 = s := by
  cases hg : getE s.ents k with
  | none => exact congrArg Prod.fst (erase1_none hg)
  | some e => exact fst_of_accepted (erase1_some hg) h

theorem C19_like {c : Core TlruState} (L : Like c) (s : TlruState) (now : Time) (op : Op)
    (h : NoEffect c s now op) : OnlyExpiredGone s now (c.step s now op).1 := by
  have := c.noEffect_rel now (OnlyExpiredGone · now ·) (OnlyExpiredGone.refl · now)
    OnlyExpiredGone.trans
    (fun s k peek hp => by rw [L.find] at hp ⊢; exact find1_onlyExpiredGone s now k peek hp)
    (fun s k v a ttl hr => by
      rw [L.ins] at hr ⊢
      rw [insert1_rej hr]; exact OnlyExpiredGone.refl s now)
    (fun s k hr => by
      rw [L.erase] at hr ⊢
      rw [erase1_miss hr]; exact OnlyExpiredGone.refl s now) s op h
  rwa [L.pre] at this

end Tlru

/-- **C19, tlru_cache**: the call changes the state at most by removing entries that had already
expired at `now`. -/
theorem C19_tlru (s : TlruState) (now : Time) (op : Op) (h : NoEffect Tlru.core s now op) :
    ∃ ks : List Key, (∀ k ∈ ks, ∃ e, getE s.ents k = some e ∧ e.dl ≤ now) ∧
      (Tlru.core.step s now op).1 = ks.foldl Tlru.removeKey s :=
  Tlru.C19_like Tlru.like s now op h

/-- **C19, utlru_cache**: likewise. -/
theorem C19_utlru (s : TlruState) (now : Time) (op : Op) (h : NoEffect Utlru.core s now op) :
    ∃ ks : List Key, (∀ k ∈ ks, ∃ e, getE s.ents k = some e ∧ e.dl ≤ now) ∧
      (Utlru.core.step s now op).1 = ks.foldl Tlru.removeKey s :=
  Tlru.C19_like Utlru.like s now op h

namespace UtMap

theorem insert1_rej {s : UtMapState} {now : Time} {k : Key} {v : Val} {a : Allow}
    (h : (insert1 s now k v a).2 = false) : (insert1 s now k v a).1 = s := by
  revert h
  unfold insert1
  cases getE s.tq k with
  | none => exact fst_of_rejected rfl
  | some e => exact fst_of_rejected rfl

theorem erase1_miss {s : UtMapState} {k : Key} (h : (erase1 s k).2 = false) : (erase1 s k).1 = s := by
  revert h
  unfold erase1
  cases getE s.tq k with
  | none => exact fun _ => rfl
  | some e => exact fun h => nomatch h

end UtMap

/-- **C19, ut_map / ut_set**: the call does exactly what the per-call prologue does. -/
theorem C19_utmap (s : UtMapState) (now : Time) (op : Op) (h : NoEffect UtMap.core s now op) :
    (UtMap.core.step s now op).1 = { s with tq := UtMap.purge s.tq now } :=
  UtMap.core.noEffect_rel now (fun a b => b = a) (fun _ => rfl) (fun h1 h2 => h2.trans h1) (fun _ _ _ _ => rfl)
    (fun _ _ _ _ _ => UtMap.insert1_rej) (fun _ _ => UtMap.erase1_miss) s op h

end Verif
