import Verif.Check
import Verif.Proofs.Capstone

/-!
# From "L1 OK" to what was observed

What `Proofs/Capstone.lean` does for the acceptor and the linearizability checker, for the policy judge `Check.l1`
(on logs in which every event belongs to instance 0; the driver's two-instance scripts are not covered).  The
structural judge `CheckL2.check` is in `Proofs/CapstoneL2.lean`.

`l1 cfg nkeys evs = none`: the replayed L1 model agrees with everything recorded at every event (`l1_transfer`;
`Emb.transfer` reads it on the `Core` of the one kind of model the log is about).  With the refinement to the
reference semantics (`Spec/Abstract.lean`), a recorded sweep then shows the live keys of the abstraction of the model
state (`tied_on_reference`), and an accepted insert of a new key into a full store removes one resident, the only key
that leaves the sweep (`evicting_insert_on_reference`).  `evicting_insert_model` reads this for the containers without
deadlines (`PlainKeyed`) in the form a replacement-policy theorem of `Proofs/Order/*.lean` applies to as it stands;
the `*_observed` theorems are its instances (tlru/utlru, rr, lfuda: `Proofs/CapstoneOrder2.lean`).  Beyond acceptance
they assume `logOk nkeys evs` (every inserted key is in the swept universe `0 .. nkeys-1`, as the harness
guarantees): without it a resident key could be invisible to the sweep.  Nothing is assumed of the clock readings
(`Verified.Timeless`).

The statements are about the log; that the log is what the C++ library did is the harness's business.
-/
namespace Verif.CapstoneOrder
open Verif Verif.Proto Verif.Spec Verif.Check Verif.Accept

def opsOf (evs : List Event) : List (Time × Op) := evs.map (fun e => (e.now, e.op))

def runM (m : MState) : List (Time × Op) → MState
  | [] => m
  | (t, op) :: rest => runM (m.step t op).1 rest

def sweepKeys (e : Event) : List Key := e.obs.sweep.map (·.1)

theorem opsOf_take_succ {evs : List Event} {i : Nat} {e : Event} (hi : evs[i]? = some e) :
    opsOf (evs.take (i + 1)) = opsOf (evs.take i) ++ [(e.now, e.op)] := by
  rw [List.take_add_one, hi]; exact List.map_append

theorem _root_.Verif.Core.run_snoc_fst {σ : Type} (c : Core σ) (s : σ) (ops : List (Time × Op)) (t : Time)
    (op : Op) :
    (c.run s (ops ++ [(t, op)])).1 = (c.step (c.run s ops).1 t op).1 := by
  induction ops generalizing s with
  | nil => rfl
  | cons x ops ih => exact ih (c.step s x.1 x.2).1

theorem _root_.Verif.Core.run_snoc_snd {σ : Type} (c : Core σ) (s : σ) (ops : List (Time × Op)) (t : Time)
    (op : Op) :
    (c.run s (ops ++ [(t, op)])).2 = (c.run s ops).2 ++ [(c.step (c.run s ops).1 t op).2] := by
  induction ops generalizing s with
  | nil => rfl
  | cons x ops ih => exact congrArg ((c.step s x.1 x.2).2 :: ·) (ih (c.step s x.1 x.2).1)

theorem run_cons_fst {σ : Type} (c : Core σ) (s : σ) (t : Time) (op : Op) (ops : List (Time × Op)) :
    (c.run s ((t, op) :: ops)).1 = (c.run (c.step s t op).1 ops).1 := rfl

/-- one kind of model state sits inside `MState` through `emb`, and `MState`'s step and observers on it are
the core's (`step` is `Capstone.Agrees`) -/
structure Emb {σ : Type} (c : Core σ) (emb : σ → MState) : Prop where
  step : ∀ s now op, (emb s).step now op = (emb (c.step s now op).1, (c.step s now op).2)
  size : ∀ s, (emb s).size = c.size s
  capacity : ∀ s, (emb s).capacity = c.capacity s
  sweep : ∀ s now n, (emb s).sweep now n = c.sweep s now n

theorem Emb.runM {σ : Type} {c : Core σ} {emb : σ → MState} (he : Emb c emb) (s : σ)
    (ops : List (Time × Op)) : runM (emb s) ops = emb (c.run s ops).1 := by
  induction ops generalizing s with
  | nil => rfl
  | cons x ops ih =>
    obtain ⟨t, op⟩ := x
    show CapstoneOrder.runM ((emb s).step t op).1 ops = emb (c.run (c.step s t op).1 ops).1
    rw [he.step]
    exact ih _

theorem emb_lru : Emb Lru.core MState.lru := ⟨fun _ _ _ => rfl, fun _ => rfl, fun _ => rfl, fun _ _ _ => rfl⟩
theorem emb_mru : Emb Mru.core MState.mru := ⟨fun _ _ _ => rfl, fun _ => rfl, fun _ => rfl, fun _ _ _ => rfl⟩
theorem emb_fifo : Emb Fifo.core MState.fifo := ⟨fun _ _ _ => rfl, fun _ => rfl, fun _ => rfl, fun _ _ _ => rfl⟩
theorem emb_lfu : Emb Lfu.core MState.lfu := ⟨fun _ _ _ => rfl, fun _ => rfl, fun _ => rfl, fun _ _ _ => rfl⟩
theorem emb_rr : Emb Rr.core MState.rr := ⟨fun _ _ _ => rfl, fun _ => rfl, fun _ => rfl, fun _ _ _ => rfl⟩
theorem emb_lfuda : Emb Lfuda.core MState.lfuda := ⟨fun _ _ _ => rfl, fun _ => rfl, fun _ => rfl, fun _ _ _ => rfl⟩
theorem emb_tlru : Emb Tlru.core MState.tlru := ⟨fun _ _ _ => rfl, fun _ => rfl, fun _ => rfl, fun _ _ _ => rfl⟩
theorem emb_utlru : Emb Utlru.core MState.utlru := ⟨fun _ _ _ => rfl, fun _ => rfl, fun _ => rfl, fun _ _ _ => rfl⟩

/-- A judge is a cascade of failure tests; it reports nothing iff every test passes.  Its verdict is always read
through such an iff: `split` on the nested `if`s costs exponentially in their depth. -/
theorem ite_some_eq_none {α : Type} {c : Prop} [Decidable c] {a : α} {x : Option α} :
    (if c then some a else x) = none ↔ ¬ c ∧ x = none := by
  by_cases h : c <;> simp [h]

theorem ite_else_some_eq_none {α : Type} {c : Prop} [Decidable c] {a : α} {x : Option α} :
    (if c then x else some a) = none ↔ c ∧ x = none := by
  by_cases h : c <;> simp [h]

/-- what `l1` compares at one event (`cmpEvent`), `m` being the model state when the call starts -/
def Matches (nkeys : Nat) (m : MState) (e : Event) : Prop :=
  (m.step e.now e.op).2 = e.out ∧ (m.step e.now e.op).1.size = e.obs.size ∧
  ((m.step e.now e.op).1.size == 0) = e.obs.empty ∧ (m.step e.now e.op).1.capacity = e.obs.cap ∧
  (m.step e.now e.op).1.sweep e.now nkeys = e.obs.sweep

theorem cmpEvent_snd_eq_none (nkeys : Nat) (m : MState) (idx : Nat) (e : Event) :
    (cmpEvent nkeys m idx e).2 = none ↔ Matches nkeys m e := by
  simp only [cmpEvent, Matches, ite_some_eq_none, Decidable.not_not, and_true]

theorem l1Loop_cons_eq_none {nkeys : Nat} {st : Insts} {idx : Nat} {e : Event} {es : List Event} :
    l1Loop nkeys st idx (e :: es) = none ↔
      Matches nkeys (st.get e.inst) e ∧
        l1Loop nkeys (st.set e.inst ((st.get e.inst).step e.now e.op).1) (idx + 1) es = none := by
  rw [← cmpEvent_snd_eq_none nkeys (st.get e.inst) idx e]
  -- one round of `l1Loop`, by `show`: `simp only [l1Loop]` would derive its equation lemmas in this module
  show (match (cmpEvent nkeys (st.get e.inst) idx e).2 with
    | some d => some d
    | none => l1Loop nkeys (st.set e.inst ((st.get e.inst).step e.now e.op).1) (idx + 1) es) = none ↔ _
  cases (cmpEvent nkeys (st.get e.inst) idx e).2 <;> simp

theorem l1Loop_none {nkeys : Nat} {evs : List Event} {st : Insts} {idx : Nat} (hinst : ∀ e ∈ evs, e.inst = 0)
    (hacc : l1Loop nkeys st idx evs = none) {i : Nat} {e : Event} (h : evs[i]? = some e) :
    Matches nkeys (runM st.a (opsOf (evs.take i))) e := by
  induction evs generalizing st idx i with
  | nil => cases h
  | cons e0 es ih =>
    obtain ⟨hm, hrest⟩ := l1Loop_cons_eq_none.1 hacc
    rw [hinst e0 List.mem_cons_self] at hm hrest
    cases i with
    | zero => cases h; exact hm
    | succ i => exact ih (fun e he => hinst e (List.mem_cons_of_mem _ he)) hrest h

/-- **Transfer lemma.**  If the observable tier accepts a single-instance log, then at every call the L1 model,
replayed from the freshly constructed container, returns the output the C++ container returned, and after it has
the recorded `size()`, `empty()`, `capacity()` and exactly the recorded sweep (what `find(k, peek::yes)` /
`find_with_use_count(k, true)` reported for every key of the universe). -/
theorem l1_transfer (cfg : Cfg) (nkeys : Nat) (evs : List Event) (hinst : ∀ e ∈ evs, e.inst = 0)
    (hacc : l1 cfg nkeys evs = none) (i : Nat) (e : Event) (hi : evs[i]? = some e) :
    Matches nkeys (runM (MState.init cfg) (opsOf (evs.take i))) e :=
  l1Loop_none hinst hacc hi

/-- `l1_transfer` on the core `c`: event `i` is the step from the run over events `0 .. i-1` to the run over `0 .. i`,
with the recorded output, and the state reached shows the recorded size, capacity and sweep -/
theorem Emb.transfer {σ : Type} {c : Core σ} {emb : σ → MState} (he : Emb c emb) {s0 : σ}
    {cfg : Cfg} {nkeys : Nat} {evs : List Event} (hinit : MState.init cfg = emb s0)
    (hinst : ∀ e ∈ evs, e.inst = 0) (hacc : l1 cfg nkeys evs = none) {i : Nat} {e : Event}
    (hi : evs[i]? = some e) :
    c.step (c.run s0 (opsOf (evs.take i))).1 e.now e.op = ((c.run s0 (opsOf (evs.take (i + 1)))).1, e.out) ∧
    c.size (c.run s0 (opsOf (evs.take (i + 1)))).1 = e.obs.size ∧
    c.capacity (c.run s0 (opsOf (evs.take (i + 1)))).1 = e.obs.cap ∧
    c.sweep (c.run s0 (opsOf (evs.take (i + 1)))).1 e.now nkeys = e.obs.sweep := by
  have h := l1_transfer cfg nkeys evs hinst hacc i e hi
  rw [hinit, he.runM, Matches, he.step, he.size, he.capacity, he.sweep] at h
  rw [opsOf_take_succ hi, c.run_snoc_fst]
  exact ⟨Prod.ext rfl h.1, h.2.1, h.2.2.2⟩

theorem _root_.Verif.Core.run_crun {σ : Type} (c : Core σ) (s0 : σ) (ops : List (Time × Op)) :
    ∃ tr : STrace σ, CRun c s0 tr (c.run s0 ops).1 ∧ tr.atoms = (c.runA s0 ops).2.2 :=
  (c.runA_eq s0 ops).1 ▸ c.runA_crun s0 ops

theorem _root_.Verif.Core.mem_sweep {σ : Type} (c : Core σ) {s : σ} {now : Time} {n : Nat} {u : Key} {v : Val}
    {cu : Nat} :
    (u, v, cu) ∈ c.sweep s now n ↔ u < n ∧ c.look s now u = some (v, cu) := by
  unfold Core.sweep
  rw [List.mem_filterMap]
  constructor
  · rintro ⟨k, hk, hkx⟩
    obtain ⟨r, hl, hr⟩ := Option.map_eq_some_iff.1 hkx
    cases hr
    exact ⟨List.mem_range.1 hk, hl⟩
  · rintro ⟨hu, hl⟩
    exact ⟨u, List.mem_range.2 hu, congrArg (Option.map _) hl⟩

theorem _root_.Verif.Core.sweep_keys_eq_filter {σ : Type} (c : Core σ) (s : σ) (now : Time) (n : Nat) :
    (c.sweep s now n).map (·.1) = (List.range n).filter (fun k => (c.look s now k).isSome) := by
  unfold Core.sweep
  generalize List.range n = l
  induction l with
  | nil => rfl
  | cons k l ih =>
    cases hl : c.look s now k with
    | none => simp [hl, ih]
    | some r => simp [hl, ih]

theorem mem_sweepKeys {σ : Type} {c : Core σ} {s : σ} {now : Time} {n : Nat} {e : Event}
    (h : c.sweep s now n = e.obs.sweep) (u : Key) :
    u ∈ sweepKeys e ↔ u < n ∧ (c.look s now u).isSome = true := by
  unfold sweepKeys; rw [← h, c.sweep_keys_eq_filter, List.mem_filter, List.mem_range]

theorem nodup_sweepKeys {σ : Type} {c : Core σ} {s : σ} {now : Time} {n : Nat} {e : Event}
    (h : c.sweep s now n = e.obs.sweep) : (sweepKeys e).Nodup := by
  unfold sweepKeys
  rw [← h, c.sweep_keys_eq_filter]
  exact List.nodup_range.filter _

theorem mem_sweep_entry {σ : Type} (c : Core σ) (ents : σ → List Entry) {f : Entry → Val × Nat}
    (hlook : ∀ s now u, c.look s now u = (getE (ents s) u).map f) {s : σ} {now : Time} {n : Nat}
    {u : Key} {vu : Val} {cu : Nat} (h : (u, vu, cu) ∈ c.sweep s now n) :
    ∃ en ∈ ents s, en.key = u ∧ f en = (vu, cu) := by
  have hl := (c.mem_sweep.1 h).2
  rw [hlook] at hl
  obtain ⟨en, hg, hf⟩ := Option.map_eq_some_iff.1 hl
  exact ⟨en, getE_mem hg, getE_key hg, hf⟩

theorem _root_.Verif.Core.ins_mem_stepA {σ : Type} (c : Core σ) (s : σ) (now : Time) (op : Op) {k : Key} {v : Val}
    {al : Allow} {d : Time} {ok : Bool} (h : Atom.ins k v al d ok ∈ (c.stepA s now op).2.2) : k ∈ insKeys op := by
  -- the atoms of a call on keys are `.pre :: …` (`stepA` unfolds by defeq), and `h` is about the rest
  cases op with
  | insert k' v' a' ttl =>
    cases List.mem_singleton.mp ((List.mem_cons.mp h).resolve_left nofun)
    exact List.mem_singleton_self _
  | insertRange xs a' =>
    obtain ⟨k', v', ttl, d', ok', hm, hy⟩ := c.mem_insertManyA ((List.mem_cons.mp h).resolve_left nofun)
    cases hy
    exact List.mem_map_of_mem (f := (·.1)) hm
  | findRange ks pk =>
    obtain ⟨_, _, -, hy⟩ := c.mem_findManyA ((List.mem_cons.mp h).resolve_left nofun)
    cases hy
  | eraseRange ks =>
    obtain ⟨_, _, -, hy⟩ := c.mem_eraseManyA ((List.mem_cons.mp h).resolve_left nofun)
    cases hy
  | clear =>
    rw [Core.stepA_clear] at h
    split at h <;> simp at h
  | find | findCount | erase => cases List.mem_singleton.mp ((List.mem_cons.mp h).resolve_left nofun)
  | _ => cases List.mem_singleton.mp h

theorem ops_ok {nkeys : Nat} {evs : List Event} (hlog : logOk nkeys evs = true) (n : Nat) :
    ∀ x ∈ opsOf (evs.take n), opKeysOk nkeys x.2 = true := by
  intro x hx
  obtain ⟨e', he', rfl⟩ := List.mem_map.1 hx
  exact List.all_eq_true.1 hlog e' (List.mem_of_mem_take he')

theorem astep_ins_full {fl : Flavor} {cap : Nat} {a a' : A} {now : Time} {k : Key} {v : Val} {al : Allow}
    {d : Time} (hs : AStep fl cap a now (.ins k v al d true) a') (hk : a.get k = none) (hfl : fl ≠ .eager)
    (hfull : cap ≤ a.size) : ∃ w, (a.get w).isSome = true ∧ a'.get = (a.get.del w).set k (v, d) := by
  by_cases hi : al.ins = true
  · obtain ⟨-, w, hw, hg, -⟩ := (AStep.ins_evict hk hi ⟨hfl, hfull⟩).mp hs
    exact ⟨w, hw, hg⟩
  · exact nomatch ((AStep.ins_rej hk hi).mp hs).1

theorem astep_ins_resident {fl : Flavor} {cap : Nat} {a a' : A} {now : Time} {k : Key} {v : Val} {al : Allow}
    {d : Time} {x : Val × Time} (hs : AStep fl cap a now (.ins k v al d true) a') (hk : a.get k = some x) :
    a'.get = a.get.set k (v, d) := by
  by_cases hc : al.upd = true ∨ (fl = .lazy ∧ al.ins = true ∧ x.2 ≤ now)
  · exact ((AStep.ins_upd hk hc).mp hs).2.1
  · exact nomatch ((AStep.ins_keep hk hc).mp hs).1

/-! The setting: a core `c` that refines the reference semantics (`R`, started with `inv0`, `abs0`; `htl`: its invariant
does not mention the clock) and sits in `MState` through `emb` (`he`, `hinit`); a single-instance log accepted by `l1`
with every inserted key in the swept universe (`hinst`, `hacc`, `hlog`); `s` the model state after events `0 .. i`
(`hs`).  `hfl`: the container is bounded; `hlook`: its side-effect-free lookup reports exactly the live entries of the
abstraction. -/
section reference
variable {σ : Type} {c : Core σ} {fl : Flavor} {cap : Nat} {Inv : Time → σ → Prop} {abs : σ → A}
  (R : Refines c fl cap Inv abs) {emb : σ → MState} (he : Emb c emb)
  (hlook : ∀ s now u, (c.look s now u).isSome = true ↔ ∃ y, (abs s).get u = some y ∧ liveAt fl now y)
  {s0 : σ} {cfg : Cfg} {nkeys : Nat} {evs : List Event} (hinit : MState.init cfg = emb s0)
  (hinst : ∀ e ∈ evs, e.inst = 0) (hlog : logOk nkeys evs = true) (hacc : l1 cfg nkeys evs = none)
  {i : Nat} {s : σ} (hs : s = (c.run s0 (opsOf (evs.take (i + 1)))).1)
  (inv0 : Inv 0 s0) (abs0 : abs s0 = A.empty) (htl : ∀ s t t', Inv t s → Inv t' s) (hfl : fl ≠ .eager)
include R he hlook hinit hinst hlog hacc hs inv0 abs0 htl hfl

/-- what event `i` recorded, read on the abstraction of `s`; `hlog` puts every resident key into the swept universe -/
theorem tied_on_reference {e0 : Event} (h0 : evs[i]? = some e0) :
    (∀ t, Inv t s) ∧
      c.sweep s e0.now nkeys = e0.obs.sweep ∧ (abs s).size = e0.obs.size ∧ cap = e0.obs.cap ∧
      ∀ u, u ∈ sweepKeys e0 ↔ ∃ y, (abs s).get u = some y ∧ liveAt fl e0.now y := by
  obtain ⟨⟨t', hinv⟩, harun⟩ := R.runA_anyclock htl s0 0 (opsOf (evs.take (i + 1))) inv0
  rw [(c.runA_eq s0 _).1, ← hs] at hinv harun
  rw [abs0] at harun
  -- a resident key was written by an `ins` atom of the run, so by a call of the log that inserts it
  have hlt : ∀ u y, (abs s).get u = some y → u < nkeys := fun u y hy => by
    rcases Capstone.back_run harun hy with ⟨p, q, t, al, hat, -⟩ | ⟨h0, -⟩
    · obtain ⟨s', op, hop, hx⟩ := c.mem_runA (hat ▸ List.mem_append_right p List.mem_cons_self)
      exact insKeys_lt (ops_ok hlog (i + 1) _ hop) (c.ins_mem_stepA s' t op hx)
    · cases h0
  obtain ⟨-, hsz, hcp, hsw⟩ := he.transfer hinit hinst hacc h0
  rw [← hs] at hsz hcp hsw
  refine ⟨fun t => htl s t' t hinv, hsw, ?_, ?_, fun u => ?_⟩
  · rw [← R.size s t' hinv]; exact hsz
  · rw [← R.capacity s t' hinv hfl]; exact hcp
  · rw [mem_sweepKeys hsw, hlook]
    exact and_iff_right_of_imp fun h => h.elim fun y hy => hlt u y hy.1

/-- an accepted single insert at event `i + 1` is one `CStep` of the model from `s`, so one `AStep` of the reference
semantics, and the sweep it recorded shows the live keys of the abstraction after it -/
theorem insert_on_reference (hpre : ∀ s now, c.pre s now = s) (hinv : ∀ t, Inv t s)
    {e : Event} {k : Key} {v : Val} {a : Allow} {ttl : Nat} (h1 : evs[i + 1]? = some e)
    (hop : e.op = .insert k v a ttl) (hout : e.out = .bool true) :
    ∃ s', CStep c s e.now (.ins k v a (c.dlOf s e.now ttl) true) s' ∧
      AStep fl cap (abs s) e.now (.ins k v a (c.dlOf s e.now ttl) true) (abs s') ∧
      ∀ u, u ∈ sweepKeys e ↔ ∃ y, (abs s').get u = some y ∧ liveAt fl e.now y := by
  obtain ⟨hst, -⟩ := he.transfer hinit hinst hacc h1
  rw [← hs, hop, hout] at hst
  have hS1 := (tied_on_reference R he hlook hinit hinst hlog hacc rfl inv0 abs0 htl hfl h1).2.2.2.2
  generalize (c.run s0 (opsOf (evs.take (i + 1 + 1)))).1 = s' at hst hS1
  simp only [Core.step, hpre, Prod.mk.injEq, Out.bool.injEq] at hst
  have hstep : CStep c s e.now (.ins k v a (c.dlOf s e.now ttl) true) s' := by
    have := CStep.ins (c := c) s e.now k v a ttl
    rwa [hst.1, hst.2] at this
  exact ⟨s', hstep, (R.cstep (hinv e.now) hstep).2, hS1⟩

/-- `insert_on_reference` for a new key and a full store: the `AStep` is the evicting one, its victim `w` is the only
resident key that goes, and the recorded sweep is described from the abstraction before the insert -/
theorem evicting_insert_on_reference (hpre : ∀ s now, c.pre s now = s) (hinv : ∀ t, Inv t s)
    {e : Event} {k : Key} {v : Val} {a : Allow} {ttl : Nat} (h1 : evs[i + 1]? = some e)
    (hop : e.op = .insert k v a ttl) (hout : e.out = .bool true)
    (hk : (abs s).get k = none) (hfull : cap ≤ (abs s).size) :
    ∃ s' w, CStep c s e.now (.ins k v a (c.dlOf s e.now ttl) true) s' ∧
      ((abs s).get w).isSome = true ∧ w ≠ k ∧
      (∀ u, u ∈ sweepKeys e ↔ (u = k ∧ liveAt fl e.now (v, c.dlOf s e.now ttl)) ∨
        (u ≠ w ∧ ∃ y, (abs s).get u = some y ∧ liveAt fl e.now y)) ∧
      ∀ w1, ((abs s).get w1).isSome = true → ¬ ((abs s').get w1).isSome = true → w1 = w := by
  obtain ⟨s', hstep, hast, hS1⟩ :=
    insert_on_reference R he hlook hinit hinst hlog hacc hs inv0 abs0 htl hfl hpre hinv h1 hop hout
  obtain ⟨w, hw, hget'⟩ := astep_ins_full hast hk hfl hfull
  have hwk : w ≠ k := by rintro rfl; rw [hk] at hw; cases hw
  refine ⟨s', w, hstep, hw, hwk, fun u => ?_, fun w1 hin hout' => Classical.byContradiction fun hne => hout' ?_⟩
  · rw [hS1, hget', AMap.exists_set, AMap.exists_del]
    refine or_congr_right (and_iff_right_of_imp fun h => ?_)
    rintro rfl
    obtain ⟨-, y, hy, -⟩ := h
    rw [hk] at hy
    cases hy
  · rw [hget']
    by_cases h : w1 = k
    · rw [h, AMap.set_eq]; rfl
    · rw [AMap.set_ne h, AMap.del_ne hne]; exact hin

end reference

/-- what the transfer needs of a container: no deadlines (`plain`: lru, mru, fifo, lfu, rr, lfuda), no per-call
prologue, and a list `K s` of resident keys that both the side-effect-free lookup (`look`, what the harness's
sweep calls) and the abstraction to the reference semantics agree with -/
structure PlainKeyed {σ : Type} (V : Verified σ) (emb : σ → MState) (K : σ → List Key) : Prop where
  emb : Emb V.c emb
  timeless : V.Timeless
  plain : V.fl = .plain
  pre : ∀ s now, V.c.pre s now = s
  look : ∀ s now u, (V.c.look s now u).isSome = true ↔ u ∈ K s
  abs : ∀ s u, ((V.abs s).get u).isSome = true ↔ u ∈ K s

theorem PlainKeyed.lookAbs {σ : Type} {V : Verified σ} {emb : σ → MState} {K : σ → List Key}
    (hP : PlainKeyed V emb K) (s : σ) (now : Time) (u : Key) :
    (V.c.look s now u).isSome = true ↔ ∃ y, (V.abs s).get u = some y ∧ liveAt V.fl now y := by
  rw [hP.look, ← hP.abs, Option.isSome_iff_exists]
  exact exists_congr fun y => (and_iff_left (Or.inl hP.plain)).symm

theorem PlainKeyed.live_iff {σ : Type} {V : Verified σ} {emb : σ → MState} {K : σ → List Key}
    (hP : PlainKeyed V emb K) (s : σ) (now : Time) (u : Key) :
    (∃ y, (V.abs s).get u = some y ∧ liveAt V.fl now y) ↔ u ∈ K s :=
  (hP.lookAbs s now u).symm.trans (hP.look s now u)

theorem PlainKeyed.bounded {σ : Type} {V : Verified σ} {emb : σ → MState} {K : σ → List Key}
    (hP : PlainKeyed V emb K) : V.fl ≠ .eager := by rw [hP.plain]; decide

/-- `tied_on_reference` without deadlines: live is resident, so the swept keys are `K s` -/
theorem PlainKeyed.tied {σ : Type} {V : Verified σ} {emb : σ → MState} {K : σ → List Key}
    (hP : PlainKeyed V emb K)
    {cfg : Cfg} {nkeys : Nat} {evs : List Event} (hinit : MState.init cfg = emb V.s0)
    (hinst : ∀ e ∈ evs, e.inst = 0) (hlog : logOk nkeys evs = true) (hacc : l1 cfg nkeys evs = none)
    {i : Nat} {e0 : Event} (h0 : evs[i]? = some e0) {s : σ} (hs : s = (V.c.run V.s0 (opsOf (evs.take (i + 1)))).1) :
    (∀ t, V.Inv t s) ∧
      V.c.sweep s e0.now nkeys = e0.obs.sweep ∧ (V.abs s).size = e0.obs.size ∧ V.cap = e0.obs.cap ∧
      ∀ u, u ∈ sweepKeys e0 ↔ u ∈ K s := by
  obtain ⟨hinv, hsw, hsz, hcap, hS0⟩ :=
    tied_on_reference V.R hP.emb hP.lookAbs hinit hinst hlog hacc hs (V.inv0 0) V.abs0 hP.timeless hP.bounded h0
  exact ⟨hinv, hsw, hsz, hcap, fun u => (hS0 u).trans (hP.live_iff s e0.now u)⟩

/-- **The observed evicting insert is the model's.**  If event `i + 1` is a single insert of `k` that returned
`true`, the sweep recorded after event `i` does not show `k`, and the `size()` recorded after event `i` is the
recorded `capacity()`, then the model, in the state `s` after events `0 .. i`, performs an accepted insert of a new
key into a full container, and whichever key that step `Evicts` is the one key that leaves the observed sweep.  A
policy theorem of `Proofs/Order/*.lean` applies to `tr`, `s`, `s'` as they stand. -/
theorem evicting_insert_model {σ : Type} {V : Verified σ} {emb : σ → MState} {K : σ → List Key}
    (hP : PlainKeyed V emb K)
    {cfg : Cfg} {nkeys : Nat} {evs : List Event} (hinit : MState.init cfg = emb V.s0)
    (hinst : ∀ e ∈ evs, e.inst = 0) (hlog : logOk nkeys evs = true) (hacc : l1 cfg nkeys evs = none)
    {i : Nat} {e0 e : Event} {k : Key} {v : Val} {a : Allow} {ttl : Nat}
    (h0 : evs[i]? = some e0) (h1 : evs[i + 1]? = some e)
    (hop : e.op = .insert k v a ttl) (hout : e.out = .bool true)
    (hnew : k ∉ sweepKeys e0) (hfull : e0.obs.size = e0.obs.cap)
    {s : σ} (hs : s = (V.c.run V.s0 (opsOf (evs.take (i + 1)))).1) :
    ∃ (tr : STrace σ) (s' : σ),
      CRun V.c V.s0 tr s ∧ tr.atoms = V.history (opsOf (evs.take (i + 1))) ∧
      V.c.sweep s e0.now nkeys = e0.obs.sweep ∧ (∀ u, u ∈ sweepKeys e0 ↔ u ∈ K s) ∧
      CStep V.c s e.now (.ins k v a (V.c.dlOf s e.now ttl) true) s' ∧ k ∉ K s ∧ V.cap ≤ V.c.size s ∧
      ∀ w, Evicts (K s) (K s') k w →
        w ∈ sweepKeys e0 ∧ w ≠ k ∧ ∀ u, u ∈ sweepKeys e ↔ (u ∈ sweepKeys e0 ∧ u ≠ w) ∨ u = k := by
  obtain ⟨hinv, hsw, hsz, hcap, hK0⟩ := hP.tied hinit hinst hlog hacc h0 hs
  obtain ⟨tr, hrun, hat⟩ := V.c.run_crun V.s0 (opsOf (evs.take (i + 1)))
  rw [← hs] at hrun
  have hnew' : k ∉ K s := fun h => hnew ((hK0 k).2 h)
  have hgk : (V.abs s).get k = none :=
    Option.not_isSome_iff_eq_none.1 fun h => hnew' ((hP.abs s k).1 h)
  have hfull' : V.cap ≤ (V.abs s).size := Nat.le_of_eq <|
    calc V.cap = e0.obs.cap := hcap
      _ = e0.obs.size := hfull.symm
      _ = (V.abs s).size := hsz.symm
  obtain ⟨s', w', hstep, -, -, hall, huniq⟩ :=
    evicting_insert_on_reference V.R hP.emb hP.lookAbs hinit hinst hlog hacc hs (V.inv0 0) V.abs0 hP.timeless
      hP.bounded hP.pre hinv h1 hop hout hgk hfull'
  refine ⟨tr, s', hrun, hat, hsw, hK0, hstep, hnew', V.R.size s 0 (hinv 0) ▸ hfull', fun w hev => ?_⟩
  obtain rfl := huniq w ((hP.abs s w).2 hev.1) fun h => hev.2.2.1 ((hP.abs s' w).1 h)
  refine ⟨(hK0 w).2 hev.1, hev.2.1, fun u => ?_⟩
  rw [hall, hP.live_iff, hK0, and_iff_left (show liveAt V.fl e.now (v, V.c.dlOf s e.now ttl) from Or.inl hP.plain)]
  exact or_comm.trans (or_congr_left and_comm)

/-- **Generic transfer**: `evicting_insert_model` with the policy theorem as an argument.  `policy` is a
replacement-policy theorem in the form `Proofs/Order/*.lean` prove it: some `w` with `Q tr (K s) w` is the one key
evicted; `Q` may depend on the resident keys only through membership (`hQ`).  Then at an evicting insert of the log
the sweep loses exactly one key `w` and gains `k`, and `Q tr (keys swept before) w` for a run `tr` of the model whose
atoms are those of the recorded history.  `hQpre` is not used by the proof: the prologue of these containers does
nothing, so the run over events `0 .. i` already ends in the state the insert atom starts from. -/
theorem evicting_insert_observed {σ : Type} (V : Verified σ) (emb : σ → MState) (K : σ → List Key)
    (hP : PlainKeyed V emb K)
    (Q : STrace σ → List Key → Key → Prop)
    (hQ : ∀ tr rk rk' w, (∀ u, u ∈ rk ↔ u ∈ rk') → Q tr rk w → Q tr rk' w)
    (hQpre : ∀ tr s now rk w, Q (tr ++ [(s, now, Atom.pre)]) rk w → Q tr rk w)
    (policy : ∀ (tr : STrace σ) (s s' : σ) (now : Time) (k : Key) (v : Val) (al : Allow) (d : Time),
      CRun V.c V.s0 tr s → CStep V.c s now (.ins k v al d true) s' → k ∉ K s → V.cap ≤ V.c.size s →
      ∃ w, Q tr (K s) w ∧ Evicts (K s) (K s') k w)
    (cfg : Cfg) (nkeys : Nat) (evs : List Event) (hinit : MState.init cfg = emb V.s0)
    (hinst : ∀ e ∈ evs, e.inst = 0) (hlog : logOk nkeys evs = true) (hacc : l1 cfg nkeys evs = none)
    (i : Nat) (e0 e : Event) (k : Key) (v : Val) (a : Allow) (ttl : Nat)
    (h0 : evs[i]? = some e0) (h1 : evs[i + 1]? = some e)
    (hop : e.op = .insert k v a ttl) (hout : e.out = .bool true)
    (hnew : k ∉ sweepKeys e0) (hfull : e0.obs.size = e0.obs.cap) :
    ∃ (tr : STrace σ) (w : Key),
      CRun V.c V.s0 tr (V.c.run V.s0 (opsOf (evs.take (i + 1)))).1 ∧
      tr.atoms = V.history (opsOf (evs.take (i + 1))) ∧
      V.c.sweep (V.c.run V.s0 (opsOf (evs.take (i + 1)))).1 e0.now nkeys = e0.obs.sweep ∧
      Q tr (sweepKeys e0) w ∧ w ∈ sweepKeys e0 ∧ w ≠ k ∧
      ∀ u, u ∈ sweepKeys e ↔ (u ∈ sweepKeys e0 ∧ u ≠ w) ∨ u = k := by
  obtain ⟨tr, s', hrun, hat, hsw, hK0, hstep, hnew', hfull', hE⟩ :=
    evicting_insert_model hP hinit hinst hlog hacc h0 h1 hop hout hnew hfull rfl
  obtain ⟨w, hq, hev⟩ := policy tr _ s' e.now k v a _ hrun hstep hnew' hfull'
  exact ⟨tr, w, hrun, hat, hsw, hQ _ _ _ _ (fun u => (hK0 u).symm) hq, hE w hev⟩

theorem PlainKeyed.of_ents {σ : Type} {V : Verified σ} {emb : σ → MState} (ents : σ → List Entry)
    {f : Entry → Val × Nat} (he : Emb V.c emb) (htl : V.Timeless) (hpl : V.fl = .plain)
    (hpre : ∀ s now, V.c.pre s now = s) (hlook : ∀ s now u, V.c.look s now u = (getE (ents s) u).map f)
    (habs : ∀ s, V.abs s = absOf (ents s)) : PlainKeyed V emb (fun s => keys (ents s)) where
  emb := he
  timeless := htl
  plain := hpl
  pre := hpre
  look := fun s now u => by rw [hlook]; exact isSome_map_getE
  abs := fun s u => by rw [habs]; exact isSome_map_getE

theorem plain_lru (cap : Nat) (h : 0 < cap) : PlainKeyed (lruV cap h) MState.lru (fun s => keys s.ents) :=
  .of_ents (·.ents) emb_lru (lruV_timeless cap h) rfl (fun _ _ => rfl) (fun _ _ _ => rfl) (fun _ => rfl)

theorem plain_mru (cap : Nat) (h : 0 < cap) : PlainKeyed (mruV cap h) MState.mru (fun s => keys s.ents) :=
  .of_ents (·.ents) emb_mru (mruV_timeless cap h) rfl (fun _ _ => rfl) (fun _ _ _ => rfl) (fun _ => rfl)

theorem plain_fifo (cap : Nat) (h : 0 < cap) : PlainKeyed (fifoV cap h) MState.fifo (fun s => keys s.ents) :=
  .of_ents (·.ents) emb_fifo (fifoV_timeless cap h) rfl (fun _ _ => rfl) (fun _ _ _ => rfl) (fun _ => rfl)

theorem plain_lfu (cap : Nat) (h : 0 < cap) : PlainKeyed (lfuV cap h) MState.lfu (fun s => keys s.ents) :=
  .of_ents (·.ents) emb_lfu (lfuV_timeless cap h) rfl (fun _ _ => rfl) (fun _ _ _ => rfl) (fun _ => rfl)

theorem plain_rr (cap : Nat) (h : 0 < cap) (rnd : List Nat) (hr : ∀ r ∈ rnd, r < cap) :
    PlainKeyed (rrV cap h rnd hr) MState.rr (fun s => keys s.ents) :=
  .of_ents (·.ents) emb_rr (rrV_timeless cap h rnd hr) rfl (fun _ _ => rfl) (fun _ _ _ => rfl) (fun _ => rfl)

theorem plain_lfuda (cap : Nat) (h : 0 < cap) (tickMs num den : Nat) :
    PlainKeyed (lfudaV cap h tickMs num den) MState.lfuda (fun s => keys s.ents) :=
  .of_ents (·.ents) emb_lfuda (lfudaV_timeless cap h tickMs num den) rfl (fun _ _ => rfl) (fun _ _ _ => rfl)
    (fun _ => rfl)

theorem useOrder_congr {σ τ : Type} {tr : STrace σ} {tr' : STrace τ} (h : tr.atoms = tr'.atoms) :
    useOrder tr = useOrder tr' := by
  have key : ∀ {ρ : Type} (t : STrace ρ), useOrder t = t.atoms.foldl (fun g x => useStep g x.2) [] := by
    intro ρ t
    simp [useOrder, STrace.atoms, List.foldl_map]
  rw [key tr, key tr', h]

theorem firstIn_congr {g : List Key} {rk rk' : List Key} (h : ∀ u, u ∈ rk ↔ u ∈ rk') :
    firstIn g rk = firstIn g rk' := by
  unfold firstIn
  congr 1
  funext k
  exact decide_eq_decide.2 (h k)

theorem lastIn_congr {g : List Key} {rk rk' : List Key} (h : ∀ u, u ∈ rk ↔ u ∈ rk') :
    lastIn g rk = lastIn g rk' := by
  unfold lastIn
  congr 2
  funext k
  exact decide_eq_decide.2 (h k)

/-- **C10 at event level (lru_cache).**  Single-instance log of an `lru_cache` of capacity ≥ 1, accepted by
the observable tier, every inserted key in the swept universe.  At a single `insert(k, v, a)` that returned `true`,
where the sweep recorded before it does not show `k` and the recorded `size()` equals the recorded `capacity()`,
the sweep loses exactly one key `w` and gains `k`, and `w` is the least recently used of the keys swept before:
`firstIn (useOrder tr) …` as in `C10_lru_history`, for the recorded history of events `0 .. i`, whatever states
annotate the trace (`useOrder` reads the atoms only: accepted inserts/updates and successful non-peek lookups are
uses, successful erases forget). -/
theorem lru_victim_observed (cfg : Cfg) (hk : cfg.kind = .lru) (hcap : 0 < cfg.cap) (nkeys : Nat)
    (evs : List Event) (hinst : ∀ e ∈ evs, e.inst = 0) (hlog : logOk nkeys evs = true)
    (hacc : l1 cfg nkeys evs = none)
    (i : Nat) (e0 e : Event) (k : Key) (v : Val) (a : Allow) (ttl : Nat)
    (h0 : evs[i]? = some e0) (h1 : evs[i + 1]? = some e)
    (hop : e.op = .insert k v a ttl) (hout : e.out = .bool true)
    (hnew : k ∉ sweepKeys e0) (hfull : e0.obs.size = e0.obs.cap) :
    ∃ w, (∀ tr : STrace RecState, tr.atoms = (lruV cfg.cap hcap).history (opsOf (evs.take (i + 1))) →
            firstIn (useOrder tr) (sweepKeys e0) = some w) ∧
      w ∈ sweepKeys e0 ∧ w ≠ k ∧
      ∀ u, u ∈ sweepKeys e ↔ (u ∈ sweepKeys e0 ∧ u ≠ w) ∨ u = k := by
  obtain ⟨tr, s', hrun, hat, -, hK0, hstep, hnew', hfull', hE⟩ :=
    evicting_insert_model (plain_lru cfg.cap hcap) (MState.init_lru hk) hinst hlog hacc h0 h1 hop hout hnew hfull rfl
  obtain ⟨w, hq, hev⟩ := C10_lru cfg.cap hcap hrun hstep hnew' hfull'
  refine ⟨w, fun tr' htr' => ?_, hE w hev⟩
  rw [useOrder_congr (htr'.trans hat.symm), firstIn_congr hK0]
  exact hq

/-- **C13 at event level (mru_cache).**  As `lru_victim_observed`, with the *most* recently used of the
keys swept before as the victim (`lastIn (useOrder tr) …` as in `C13_mru_history`).  The third conjunct of `C13_mru`
(the new key becomes the most recently used) is not restated. -/
theorem mru_victim_observed (cfg : Cfg) (hk : cfg.kind = .mru) (hcap : 0 < cfg.cap) (nkeys : Nat)
    (evs : List Event) (hinst : ∀ e ∈ evs, e.inst = 0) (hlog : logOk nkeys evs = true)
    (hacc : l1 cfg nkeys evs = none)
    (i : Nat) (e0 e : Event) (k : Key) (v : Val) (a : Allow) (ttl : Nat)
    (h0 : evs[i]? = some e0) (h1 : evs[i + 1]? = some e)
    (hop : e.op = .insert k v a ttl) (hout : e.out = .bool true)
    (hnew : k ∉ sweepKeys e0) (hfull : e0.obs.size = e0.obs.cap) :
    ∃ w, (∀ tr : STrace RecState, tr.atoms = (mruV cfg.cap hcap).history (opsOf (evs.take (i + 1))) →
            lastIn (useOrder tr) (sweepKeys e0) = some w) ∧
      w ∈ sweepKeys e0 ∧ w ≠ k ∧
      ∀ u, u ∈ sweepKeys e ↔ (u ∈ sweepKeys e0 ∧ u ≠ w) ∨ u = k := by
  obtain ⟨tr, s', hrun, hat, -, hK0, hstep, hnew', hfull', hE⟩ :=
    evicting_insert_model (plain_mru cfg.cap hcap) (MState.init_mru hk) hinst hlog hacc h0 h1 hop hout hnew hfull rfl
  obtain ⟨w, hq, hev, -⟩ := C13_mru cfg.cap hcap hrun hstep hnew' hfull'
  refine ⟨w, fun tr' htr' => ?_, hE w hev⟩
  rw [useOrder_congr (htr'.trans hat.symm), lastIn_congr hK0]
  exact hq

/-- **C12 at event level (fifo_cache).**  As `lru_victim_observed`, with the earliest-created of the keys swept
before as the victim: `firstIn (bornOrder … tr) …` as in `C12_fifo_history`, where `tr` is the run of the fifo model
over the recorded history of events `0 .. i` (`bornOrder` consults the annotating states to tell a creating insert
from an update, so not any trace with these atoms will do). -/
theorem fifo_victim_observed (cfg : Cfg) (hk : cfg.kind = .fifo) (hcap : 0 < cfg.cap) (nkeys : Nat)
    (evs : List Event) (hinst : ∀ e ∈ evs, e.inst = 0) (hlog : logOk nkeys evs = true)
    (hacc : l1 cfg nkeys evs = none)
    (i : Nat) (e0 e : Event) (k : Key) (v : Val) (a : Allow) (ttl : Nat)
    (h0 : evs[i]? = some e0) (h1 : evs[i + 1]? = some e)
    (hop : e.op = .insert k v a ttl) (hout : e.out = .bool true)
    (hnew : k ∉ sweepKeys e0) (hfull : e0.obs.size = e0.obs.cap) :
    ∃ (tr : STrace FifoState) (w : Key),
      CRun Fifo.core (Fifo.init cfg.cap) tr (Fifo.core.run (Fifo.init cfg.cap) (opsOf (evs.take (i + 1)))).1 ∧
      tr.atoms = (fifoV cfg.cap hcap).history (opsOf (evs.take (i + 1))) ∧
      firstIn (bornOrder (fun s => keys s.ents) tr) (sweepKeys e0) = some w ∧
      w ∈ sweepKeys e0 ∧ w ≠ k ∧
      ∀ u, u ∈ sweepKeys e ↔ (u ∈ sweepKeys e0 ∧ u ≠ w) ∨ u = k := by
  obtain ⟨tr, s', hrun, hat, -, hK0, hstep, hnew', hfull', hE⟩ :=
    evicting_insert_model (plain_fifo cfg.cap hcap) (MState.init_fifo hk) hinst hlog hacc h0 h1 hop hout hnew hfull rfl
  obtain ⟨w, hq, hev⟩ := C12_fifo cfg.cap hcap hrun hstep hnew' hfull'
  exact ⟨tr, w, hrun, hat, by rw [firstIn_congr hK0]; exact hq, hE w hev⟩

theorem lfu_sweep_count {cap : Nat} (hcap : 0 < cap) {tr : STrace LfuState} {s : LfuState}
    (hrun : CRun Lfu.core (Lfu.init cap) tr s) {now : Time} {n : Nat} {u : Key} {vu : Val} {cu : Nat}
    (h : (u, vu, cu) ∈ Lfu.core.sweep s now n) : cu = useCount (fun s => keys s.ents) tr u := by
  obtain ⟨en, hen, rfl, hf⟩ := mem_sweep_entry Lfu.core (·.ents) (fun _ _ _ => rfl) h
  cases hf
  exact (Lfu.run_inv hcap hrun).cnt en hen

/-- **C11 at event level, counts (lfu_cache).**  Single-instance log of an `lfu_cache` of capacity ≥ 1
accepted by the observable tier.  After every event `i`, the use count the sweep
(`find_with_use_count(k, peek)`) reported for each key is `useCount` of the run of the model over the recorded
history of events `0 .. i`: 1 at creation, +1 per accepted update and per successful non-peek lookup. -/
theorem lfu_counts_observed (cfg : Cfg) (hk : cfg.kind = .lfu) (hcap : 0 < cfg.cap) (nkeys : Nat)
    (evs : List Event) (hinst : ∀ e ∈ evs, e.inst = 0) (hacc : l1 cfg nkeys evs = none)
    (i : Nat) (e : Event) (hi : evs[i]? = some e) :
    ∃ tr : STrace LfuState,
      CRun Lfu.core (Lfu.init cfg.cap) tr (Lfu.core.run (Lfu.init cfg.cap) (opsOf (evs.take (i + 1)))).1 ∧
      tr.atoms = (lfuV cfg.cap hcap).history (opsOf (evs.take (i + 1))) ∧
      ∀ u vu cu, (u, vu, cu) ∈ e.obs.sweep → cu = useCount (fun s => keys s.ents) tr u := by
  obtain ⟨tr, h1, h2⟩ := Lfu.core.run_crun (Lfu.init cfg.cap) (opsOf (evs.take (i + 1)))
  have hb := (emb_lfu.transfer (MState.init_lfu hk) hinst hacc hi).2.2.2
  exact ⟨tr, h1, h2, fun u vu cu hmem => lfu_sweep_count hcap h1 (hb ▸ hmem)⟩

/-- **C11 at event level, victim (lfu_cache).**  Same situation as `lru_victim_observed`.  The key `w` that
disappears from the sweep has a minimal use count among the keys swept after event `i` — both as the harness
saw it (the count the sweep after event `i` reported for `w` is ≤ the count it reported for every key) and in
terms of the ghost: every reported count is `useCount` of the run `tr` of the model over the recorded history
of events `0 .. i` (the formulation of `C11_lfu_history`). -/
theorem lfu_victim_observed (cfg : Cfg) (hk : cfg.kind = .lfu) (hcap : 0 < cfg.cap) (nkeys : Nat)
    (evs : List Event) (hinst : ∀ e ∈ evs, e.inst = 0) (hlog : logOk nkeys evs = true)
    (hacc : l1 cfg nkeys evs = none)
    (i : Nat) (e0 e : Event) (k : Key) (v : Val) (a : Allow) (ttl : Nat)
    (h0 : evs[i]? = some e0) (h1 : evs[i + 1]? = some e)
    (hop : e.op = .insert k v a ttl) (hout : e.out = .bool true)
    (hnew : k ∉ sweepKeys e0) (hfull : e0.obs.size = e0.obs.cap) :
    ∃ (tr : STrace LfuState) (w : Key),
      CRun Lfu.core (Lfu.init cfg.cap) tr (Lfu.core.run (Lfu.init cfg.cap) (opsOf (evs.take (i + 1)))).1 ∧
      tr.atoms = (lfuV cfg.cap hcap).history (opsOf (evs.take (i + 1))) ∧
      (∀ u vu cu, (u, vu, cu) ∈ e0.obs.sweep → cu = useCount (fun s => keys s.ents) tr u) ∧
      (∀ u ∈ sweepKeys e0, useCount (fun s => keys s.ents) tr w ≤ useCount (fun s => keys s.ents) tr u) ∧
      (∃ vw cw, (w, vw, cw) ∈ e0.obs.sweep ∧ ∀ u vu cu, (u, vu, cu) ∈ e0.obs.sweep → cw ≤ cu) ∧
      w ≠ k ∧
      ∀ u, u ∈ sweepKeys e ↔ (u ∈ sweepKeys e0 ∧ u ≠ w) ∨ u = k := by
  obtain ⟨tr, s', hrun, hat, hsw, hK0, hstep, hnew', hfull', hE⟩ :=
    evicting_insert_model (plain_lfu cfg.cap hcap) (MState.init_lfu hk) hinst hlog hacc h0 h1 hop hout hnew hfull rfl
  obtain ⟨w, hev, hmin⟩ := C11_lfu_victim cfg.cap hcap hrun hstep hnew' hfull'
  obtain ⟨hw, hwk, hall⟩ := hE w hev
  have hcnt : ∀ u vu cu, (u, vu, cu) ∈ e0.obs.sweep → cu = useCount (fun s => keys s.ents) tr u :=
    fun u vu cu hmem => lfu_sweep_count hcap hrun (hsw ▸ hmem)
  have hq : ∀ u ∈ sweepKeys e0, useCount (fun s => keys s.ents) tr w ≤ useCount (fun s => keys s.ents) tr u :=
    fun u hu => hmin u ((hK0 u).1 hu)
  refine ⟨tr, w, hrun, hat, hcnt, hq, ?_, hwk, hall⟩
  obtain ⟨⟨w', vw, cw⟩, hmem, rfl⟩ := List.mem_map.1 hw
  refine ⟨vw, cw, hmem, fun u vu cu hu => ?_⟩
  rw [hcnt _ _ _ hmem, hcnt _ _ _ hu]
  exact hq u (List.mem_map.2 ⟨(u, vu, cu), hu, rfl⟩)

/-! ## non-vacuity -/

namespace Example

def ev (t : Nat) (op : Op) (out : Out) (sz : Nat) (sw : List (Key × Val × Nat)) : Event :=
  { inst := 0, now := t, tag := "@", op := op, out := out,
    obs := { size := sz, empty := sz == 0, cap := 2, sweep := sw } }

/-- an `lru_cache` of capacity 2 over the keys 0..2: two inserts, a lookup that makes key 0 the most recently
used, and an insert that evicts key 1 -/
def evC0 : Event := ev 10 (.insert 0 10 .insertOrUpdate 0) (.bool true) 1 [(0, 10, 0)]
def evC1 : Event := ev 20 (.insert 1 11 .insertOrUpdate 0) (.bool true) 2 [(0, 10, 0), (1, 11, 0)]
def evC2 : Event := ev 30 (.find 0 false) (.opt (some 10)) 2 [(0, 10, 0), (1, 11, 0)]
def evC3 : Event := ev 40 (.insert 2 12 .insertOrUpdate 0) (.bool true) 2 [(0, 10, 0), (2, 12, 0)]

def logC : List Event := [evC0, evC1, evC2, evC3]

def cfgC : Cfg := { kind := .lru, cap := 2 }

theorem logC_accepted : l1 cfgC 3 logC = none := by rfl

theorem logC_victim :
    ∃ w, (∀ tr : STrace RecState, tr.atoms = (lruV 2 (by decide)).history (opsOf (logC.take 3)) →
            firstIn (useOrder tr) [0, 1] = some w) ∧
      w ∈ [0, 1] ∧ w ≠ 2 ∧ ∀ u, u ∈ [0, 2] ↔ (u ∈ [0, 1] ∧ u ≠ w) ∨ u = 2 :=
  lru_victim_observed cfgC rfl (by decide) 3 logC (by decide) (by decide) logC_accepted 2 evC2 evC3 2 12
    .insertOrUpdate 0 rfl rfl rfl rfl (by decide) rfl

/-- the key the log shows evicted, 1, is the least recently used one according to the ghost -/
example : ∀ tr : STrace RecState, tr.atoms = (lruV 2 (by decide)).history (opsOf (logC.take 3)) →
    firstIn (useOrder tr) [0, 1] = some 1 := by
  obtain ⟨w, h1, h2, _, h4⟩ := logC_victim
  have : w = 1 := by
    simp only [List.mem_cons, List.not_mem_nil, or_false] at h2
    rcases h2 with rfl | rfl
    · have := (h4 0).1 (by simp)
      simp at this
    · rfl
  subst this
  exact h1

end Example

end Verif.CapstoneOrder

#print axioms Verif.CapstoneOrder.l1_transfer
#print axioms Verif.CapstoneOrder.evicting_insert_observed
#print axioms Verif.CapstoneOrder.lru_victim_observed
#print axioms Verif.CapstoneOrder.mru_victim_observed
#print axioms Verif.CapstoneOrder.fifo_victim_observed
#print axioms Verif.CapstoneOrder.lfu_counts_observed
#print axioms Verif.CapstoneOrder.lfu_victim_observed
#print axioms Verif.CapstoneOrder.Example.logC_accepted
#print axioms Verif.CapstoneOrder.Example.logC_victim
