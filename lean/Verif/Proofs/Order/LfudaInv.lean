import Verif.Proofs.Order.AgePerm
/-!
# The order invariant of `lfuda_cache` relative to the aging ghost

`Lfuda.Ord cap tick num den g T s`: the model state `s` agrees with the ghost `g`, and no stamp exceeds `T`,
the latest clock reading.  Every atom keeps it, the ghost moving by `daStep` (`Ord.step`), provided the clock
reading is not below `T`.  The clock matters: the aging walk stops at the first key of the age list that is
not idle, which finds all idle keys only if that list is sorted by stamp.
-/
namespace Verif
open Verif.Spec

def DaCntSorted (l : List Entry) : Prop := l.Pairwise (fun a b => a.cnt ≤ b.cnt)

namespace Lfuda

structure Ord (cap tick num den : Nat) (g : DA) (T : Time) (s : LfudaState) : Prop where
  cap_eq : s.cap = cap
  tick_eq : s.tick = tick
  num_eq : s.num = num
  den_eq : s.den = den
  nodup : (keys s.ents).Nodup
  age_nodup : s.age.Nodup
  age_mem : ∀ k, k ∈ s.age ↔ k ∈ keys s.ents
  cnt_eq : ∀ e ∈ s.ents, e.cnt = g.cnt e.key
  stamp_eq : ∀ e ∈ s.ents, e.stamp = g.stamp e.key
  sorted : DaCntSorted s.ents
  age_sorted : s.age.Pairwise (fun a b => g.stamp a ≤ g.stamp b)
  stamp_le : ∀ k ∈ s.age, g.stamp k ≤ T

variable {cap tick num den : Nat} {g : DA} {T : Time} {s : LfudaState}

theorem ord_init (cap tickMs num den : Nat) :
    Ord cap (tickMs * msNs) num den ⟨fun _ => 0, fun _ => 0⟩ 0 (init cap tickMs num den) where
  cap_eq := rfl
  tick_eq := rfl
  num_eq := rfl
  den_eq := rfl
  nodup := List.nodup_nil
  age_nodup := List.nodup_nil
  age_mem _ := Iff.rfl
  cnt_eq _ h := absurd h List.not_mem_nil
  stamp_eq _ h := absurd h List.not_mem_nil
  sorted := List.Pairwise.nil
  age_sorted := List.Pairwise.nil
  stamp_le _ h := absurd h List.not_mem_nil

theorem Ord.mono (h : Ord cap tick num den g T s) {T' : Time} (hT : T ≤ T') :
    Ord cap tick num den g T' s :=
  { h with stamp_le := fun k hk => Nat.le_trans (h.stamp_le k hk) hT }

theorem Ord.removeKey (h : Ord cap tick num den g T s) (k : Key) :
    Ord cap tick num den g T (removeKey s k) where
  cap_eq := h.cap_eq
  tick_eq := h.tick_eq
  num_eq := h.num_eq
  den_eq := h.den_eq
  nodup := nodup_keys_delE h.nodup k
  age_nodup := List.Pairwise.filter _ h.age_nodup
  age_mem x := by
    show x ∈ dropKey s.age k ↔ x ∈ keys (delE s.ents k)
    rw [mem_keys_delE, mem_dropKey, h.age_mem x]
  cnt_eq := fun e he => h.cnt_eq e (mem_of_mem_delE he)
  stamp_eq := fun e he => h.stamp_eq e (mem_of_mem_delE he)
  sorted := cntSorted_delE h.sorted k
  age_sorted := List.Pairwise.filter _ h.age_sorted
  stamp_le := fun x hx => h.stamp_le x (List.mem_filter.mp hx).1

/-- filing a fresh entry `e` stamped `now`.  `g'` is `g` changed only at `e.key` (`hoff`), where it holds `e`'s
count (`hc'`) and the stamp `now` (`hs'`). -/
theorem Ord.put (h : Ord cap tick num den g T s) {now : Time} (hT : T ≤ now) {e : Entry} {g' : DA}
    (hk : e.key ∉ keys s.ents) (hst : e.stamp = now)
    (hc' : g'.cnt e.key = e.cnt) (hs' : g'.stamp e.key = now)
    (hoff : ∀ x, x ≠ e.key → g'.cnt x = g.cnt x ∧ g'.stamp x = g.stamp x) :
    Ord cap tick num den g' now { s with ents := fileCnt s.ents e, age := s.age ++ [e.key] } := by
  have hne : ∀ a ∈ s.age, a ≠ e.key := fun a ha hh => hk (hh ▸ (h.age_mem a).mp ha)
  have hne' : ∀ x ∈ s.ents, x.key ≠ e.key := fun x hx hh => hk (hh ▸ mem_keys_of_mem hx)
  have hle : ∀ a ∈ s.age, g'.stamp a ≤ now := fun a ha =>
    (hoff a (hne a ha)).2 ▸ Nat.le_trans (h.stamp_le a ha) hT
  exact {
    cap_eq := h.cap_eq, tick_eq := h.tick_eq, num_eq := h.num_eq, den_eq := h.den_eq
    nodup := nodup_keys_fileCnt h.nodup hk
    age_nodup := List.nodup_append.mpr ⟨h.age_nodup, List.pairwise_singleton _ _, fun a ha b hb =>
      List.mem_singleton.mp hb ▸ hne a ha⟩
    age_mem := fun x => by
      show x ∈ s.age ++ [e.key] ↔ x ∈ keys (fileCnt s.ents e)
      rw [mem_keys_fileCnt, List.mem_append, h.age_mem x, List.mem_singleton]; exact Or.comm
    cnt_eq := forall_mem_fileCnt hc'.symm fun x hx => (h.cnt_eq x hx).trans (hoff _ (hne' x hx)).1.symm
    stamp_eq := forall_mem_fileCnt (hst.trans hs'.symm) fun x hx =>
      (h.stamp_eq x hx).trans (hoff _ (hne' x hx)).2.symm
    sorted := cntSorted_fileCnt h.sorted e
    age_sorted := List.pairwise_append.mpr ⟨
      h.age_sorted.imp_of_mem fun ha hb hab => by rw [(hoff _ (hne _ ha)).2, (hoff _ (hne _ hb)).2]; exact hab,
      List.pairwise_singleton _ _,
      fun a ha b hb => by rw [List.mem_singleton.mp hb, hs']; exact hle a ha⟩
    stamp_le := fun x hx => by
      rcases List.mem_append.mp hx with hx | hx
      · exact hle x hx
      · rw [List.mem_singleton.mp hx, hs']; exact Nat.le_refl _ }

theorem Ord.access (h : Ord cap tick num den g T s) {now : Time} (hT : T ≤ now) {e0 e : Entry}
    (hg : getE s.ents e.key = some e0) (hcnt : e.cnt = e0.cnt) :
    Ord cap tick num den (g.use e.key now) now (access s e now) := by
  have hc0 : e0.cnt = g.cnt e.key := getE_key hg ▸ h.cnt_eq e0 (getE_mem hg)
  exact (h.removeKey e.key).put hT (e := { e with cnt := e.cnt + 1, stamp := now }) (g' := g.use e.key now)
    (not_mem_keys_delE_self _ _) rfl ((if_pos rfl).trans (by rw [hcnt, hc0])) (if_pos rfl)
    (fun x hx => ⟨if_neg hx, if_neg hx⟩)

theorem Ord.idle_eq (h : Ord cap tick num den g T s) (now : Time) {k : Key} (hk : k ∈ s.age) :
    idle s now k = decide (g.stamp k + tick < now) := by
  obtain ⟨e, hg⟩ := mem_keys_iff_getE.mp ((h.age_mem k).mp hk)
  unfold idle
  rw [hg]
  simp only [h.stamp_eq e (getE_mem hg), getE_key hg, h.tick_eq]

theorem Ord.takeWhile_idle (h : Ord cap tick num den g T s) (now : Time) :
    s.age.takeWhile (idle s now) = s.age.filter (fun k => decide (g.stamp k + tick < now)) := by
  rw [takeWhile_eq_filter (h.age_sorted.imp_of_mem fun {a b} ha hb hab hpb => ?_)]
  · exact List.filter_congr fun k hk => h.idle_eq now hk
  · rw [h.idle_eq now ha, decide_eq_true_eq]
    rw [h.idle_eq now hb, decide_eq_true_eq] at hpb
    exact Nat.lt_of_le_of_lt (Nat.add_le_add_right hab _) hpb

theorem Ord.dynAge (h : Ord cap tick num den g T s) {now : Time} (hT : T ≤ now) :
    Ord cap tick num den (g.ageAt (keys s.ents) tick num den now).1 now (dynAge s now).1 ∧
      (dynAge s now).2 = (g.ageAt (keys s.ents) tick num den now).2 ∧
      ∀ x, x ∈ keys (dynAge s now).1.ents ↔ x ∈ keys s.ents := by
  -- `old`: the keys the walk ages, `young`: the rest of the age list; the ghost ages exactly `old`
  obtain ⟨old, hold⟩ : ∃ old, old = s.age.takeWhile (idle s now) := ⟨_, rfl⟩
  obtain ⟨young, hyoung⟩ : ∃ young, young = s.age.dropWhile (idle s now) := ⟨_, rfl⟩
  have hoy : old ++ young = s.age := by rw [hold, hyoung]; exact List.takeWhile_append_dropWhile
  have hold' := hold.trans (h.takeWhile_idle now)
  have hs' : (Lfuda.dynAge s now).1 =
      ({ s with ents := old.foldl (ageOne now s.num s.den) s.ents, age := young ++ old.reverse } :
        LfudaState) := by rw [hold, hyoung]; rfl
  have hnd := List.nodup_append.mp (hoy ▸ h.age_nodup)
  have hperm : (young ++ old.reverse).Perm s.age :=
    hoy ▸ (List.perm_append_comm.trans ((List.reverse_perm old).append_right young))
  have hold_iff : ∀ x, x ∈ old ↔ x ∈ keys s.ents ∧ decide (g.stamp x + tick < now) = true :=
    fun x => by rw [hold', List.mem_filter, h.age_mem]
  have haged : ∀ x ∈ old, _ := fun x hx => g.ageAt_pos num den ((hold_iff x).mp hx)
  have hkept : ∀ x, x ∉ old → _ := fun x hx => g.ageAt_neg num den (mt (hold_iff x).mpr hx)
  have hyoung' : ∀ x ∈ young, x ∈ s.age ∧ x ∉ old := fun x hx =>
    ⟨hoy ▸ List.mem_append_right _ hx, fun ho => hnd.2.2 x ho x hx rfl⟩
  have hle : ∀ x ∈ s.age, ((g.ageAt (keys s.ents) tick num den now).1).stamp x ≤ now := fun x hx => by
    by_cases ho : x ∈ old
    · exact Nat.le_of_eq (haged x ho).2
    · exact (hkept x ho).2 ▸ Nat.le_trans (h.stamp_le x hx) hT
  have hp := foldl_ageOne_perm now s.num s.den old hnd.1 h.nodup
  have hpk := keys_foldl_ageOne_perm now s.num s.den old hnd.1 h.nodup
  have hent : ∀ e' ∈ old.foldl (ageOne now s.num s.den) s.ents,
      e'.cnt = ((g.ageAt (keys s.ents) tick num den now).1).cnt e'.key ∧
      e'.stamp = ((g.ageAt (keys s.ents) tick num den now).1).stamp e'.key := by
    intro e' he'
    obtain ⟨e, he, rfl⟩ := List.mem_map.mp (hp.mem_iff.mp he')
    rw [agedIf_key]
    unfold agedIf
    by_cases ho : e.key ∈ old
    · rw [if_pos ho, (haged _ ho).1, (haged _ ho).2, ← h.cnt_eq e he, h.num_eq, h.den_eq]
      exact ⟨rfl, rfl⟩
    · rw [if_neg ho, (hkept _ ho).1, (hkept _ ho).2]
      exact ⟨h.cnt_eq e he, h.stamp_eq e he⟩
  rw [hs']
  refine ⟨?_, ?_, fun x => hpk.mem_iff⟩
  · exact {
      cap_eq := h.cap_eq, tick_eq := h.tick_eq, num_eq := h.num_eq, den_eq := h.den_eq
      nodup := hpk.nodup_iff.mpr h.nodup
      age_nodup := hperm.nodup_iff.mpr h.age_nodup
      age_mem := fun x => (hperm.mem_iff.trans (h.age_mem x)).trans hpk.mem_iff.symm
      cnt_eq := fun e' he' => (hent e' he').1
      stamp_eq := fun e' he' => (hent e' he').2
      sorted := foldl_ageOne_sorted now s.num s.den old h.sorted
      -- the young keep their stamps and their order; the aged all carry `now`, which no stamp exceeds
      age_sorted := List.pairwise_append.mpr ⟨
        (h.age_sorted.sublist (hoy ▸ List.sublist_append_right old young)).imp_of_mem
          fun ha hb hab => by rw [(hkept _ (hyoung' _ ha).2).2, (hkept _ (hyoung' _ hb).2).2]; exact hab,
        List.pairwise_of_forall_mem_list fun a ha b hb => by
          rw [(haged a (List.mem_reverse.mp ha)).2, (haged b (List.mem_reverse.mp hb)).2]
          exact Nat.le_refl _,
        fun a ha b hb => by
          rw [(haged b (List.mem_reverse.mp hb)).2]; exact hle a (hyoung' a ha).1⟩
      stamp_le := fun x hx => hle x (hperm.mem_iff.mp hx) }
  · show (s.age.takeWhile (idle s now)).length = _
    rw [← hold, hold']
    exact length_filter_eq_of_nodup h.age_nodup h.nodup h.age_mem

theorem Ord.prune (h : Ord cap tick num den g T s) {now : Time} (hT : T ≤ now) :
    Ord cap tick num den (g.ageAt (keys s.ents) tick num den now).1 now (prune s now) ∧
      ∀ x, x ∈ keys (prune s now).ents → x ∈ keys s.ents := by
  obtain ⟨h1, _, h3⟩ := h.dynAge hT
  cases hl : (Lfuda.dynAge s now).1.ents with
  | nil => rw [prune_nil hl]; exact ⟨h1, fun x hx => (h3 x).mp hx⟩
  | cons e t =>
    rw [prune_cons hl]
    exact ⟨h1.removeKey e.key, fun x hx => (h3 x).mp (mem_keys_delE.mp hx).1⟩

theorem Ord.insert1 (h : Ord cap tick num den g T s) {now : Time} (hT : T ≤ now)
    (k : Key) (v : Val) (a : Allow) (d : Time) :
    Ord cap tick num den
      (daStep cap tick num den (keys s.ents) now g (.ins k v a d (insert1 s now k v a).2)) now
      (insert1 s now k v a).1 := by
  have hcreate : ∀ g : DA, ∀ x, x ≠ k →
      (g.create k now).cnt x = g.cnt x ∧ (g.create k now).stamp x = g.stamp x :=
    fun g x hx => ⟨if_neg hx, if_neg hx⟩
  cases hg : getE s.ents k with
  | some e0 =>
    have hk : k ∈ keys s.ents := mem_keys_of_getE hg
    rw [Lfuda.insert1_some hg]
    by_cases ha : a.upd = true
    · rw [if_pos ha, daStep_ins, if_pos hk]
      obtain rfl := getE_key hg
      exact h.access hT (e := { e0 with val := v }) (e0 := e0) hg rfl
    · rw [if_neg ha]
      exact h.mono hT
  | none =>
    have hk : k ∉ keys s.ents := getE_eq_none_iff.mp hg
    rw [Lfuda.insert1_none hg]
    by_cases ha : a.ins = true
    · have hlen : (keys s.ents).length = s.ents.length := List.length_map _
      rw [if_pos ha, daStep_ins, if_neg hk]
      by_cases hfull : s.ents.length ≥ s.cap
      · rw [if_pos hfull, if_pos (show cap ≤ (keys s.ents).length by rw [hlen, ← h.cap_eq]; exact hfull)]
        obtain ⟨hp, hsub⟩ := h.prune hT (now := now)
        exact hp.put (Nat.le_refl _) (e := { key := k, val := v, cnt := 1, stamp := now })
          (fun hh => hk (hsub k hh)) rfl (if_pos rfl) (if_pos rfl) (hcreate _)
      · rw [if_neg hfull, if_neg (show ¬ cap ≤ (keys s.ents).length by rw [hlen, ← h.cap_eq]; exact hfull)]
        exact h.put hT (e := { key := k, val := v, cnt := 1, stamp := now })
          hk rfl (if_pos rfl) (if_pos rfl) (hcreate _)
    · rw [if_neg ha]
      exact h.mono hT

theorem Ord.find1 (h : Ord cap tick num den g T s) {now : Time} (hT : T ≤ now)
    (k : Key) (pk : Bool) :
    Ord cap tick num den
      (daStep cap tick num den (keys s.ents) now g (.look k pk (find1 s now k pk).2)) now
      (find1 s now k pk).1 := by
  cases hg : getE s.ents k with
  | some e0 =>
    rw [Lfuda.find1_some hg]
    cases pk with
    | true => exact h.mono hT
    | false =>
      obtain rfl := getE_key hg
      exact h.access hT (e := e0) (e0 := e0) hg rfl
  | none =>
    rw [Lfuda.find1_none hg]
    cases pk <;> exact h.mono hT

theorem Ord.step (h : Ord cap tick num den g T s) {now : Time} (hT : T ≤ now) {x : Atom}
    {s' : LfudaState} (hs : CStep core s now x s') :
    Ord cap tick num den (daStep cap tick num den (keys s.ents) now g x) now s' := by
  cases hs with
  | ins k v a ttl => exact h.insert1 hT k v a _
  | look k peek => exact h.find1 hT k peek
  | del k =>
    show Ord cap tick num den g now (erase1 s k).1
    unfold Lfuda.erase1
    cases getE s.ents k with
    | some e0 => exact (h.removeKey k).mono hT
    | none => exact h.mono hT
  | clear hc => cases hc
  | age => exact (h.dynAge hT).1
  | pre | reap | setTtl | obsSize | obsEmpty | obsCap => exact h.mono hT

/-- the invariant at the end of a monotone trace: `Ord` for some bound `T` on the stamps that no
later clock reading falls below -/
def OrdAt (cap tick num den : Nat) (p : STrace LfudaState) (s : LfudaState) : Prop :=
  ∃ T, Ord cap tick num den (daGhost cap tick num den (fun s => keys s.ents) p) T s ∧
    ∀ now, (∀ x ∈ p, x.2.1 ≤ now) → T ≤ now

theorem OrdAt.step {cap tick num den : Nat} {p : STrace LfudaState} {s s' : LfudaState} {now : Time}
    {x : Atom} (h : OrdAt cap tick num den p s) (hm : ∀ y ∈ p, y.2.1 ≤ now)
    (hs : CStep core s now x s') : OrdAt cap tick num den (p ++ [(s, now, x)]) s' := by
  obtain ⟨T, hord, hT⟩ := h
  refine ⟨now, ?_, fun now' hall => hall (s, now, x) (List.mem_append_right _ List.mem_cons_self)⟩
  rw [daGhost_snoc]
  exact hord.step (hT now hm) hs

/-- Along every run from the empty cache whose clock readings never decrease: the state agrees with the aging
ghost. -/
theorem run_inv (cap tickMs num den : Nat) {tr : STrace LfudaState} {s : LfudaState}
    (hrun : CRun core (init cap tickMs num den) tr s) (hmono : STrace.monotone tr) :
    OrdAt cap (tickMs * msNs) num den tr s :=
  CRun.invariant (c := core) (pre := [])
    (P := fun p s => STrace.monotone p → OrdAt cap (tickMs * msNs) num den p s)
    (fun _ _ _ _ _ ih hs hm =>
      (ih (STrace.monotone_snoc hm).1).step (STrace.monotone_snoc hm).2 hs)
    (fun _ => ⟨0, ord_init cap tickMs num den, fun _ _ => Nat.zero_le _⟩)
    hrun hmono

end Lfuda
end Verif
