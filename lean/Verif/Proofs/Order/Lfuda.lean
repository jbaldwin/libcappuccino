import Verif.Proofs.Order.LfudaInv
/-!
# C14 (and C11 for lfuda_cache): counts with dynamic aging
-/
namespace Verif
open Verif.Spec

def lfudaGhost (cap tickMs num den : Nat) (tr : STrace LfudaState) : DA :=
  daGhost cap (tickMs * msNs) num den (fun s => keys s.ents) tr

/-- **C14/C11 (counts).** Every lookup that finds an entry reports the count the aging ghost holds for
it after this atom (non-peek lookups count themselves). -/
theorem C14_lfuda_count (cap tickMs num den : Nat)
    {tr : STrace LfudaState} {s s' : LfudaState} {now : Time} {k : Key} {pk : Bool} {v : Val} {n : Nat}
    (hrun : CRun Lfuda.core (Lfuda.init cap tickMs num den) tr s)
    (hstep : CStep Lfuda.core s now (.look k pk (some (v, n))) s')
    (hmono : STrace.monotone (tr ++ [(s, now, .look k pk (some (v, n)))])) :
    n = (lfudaGhost cap tickMs num den (tr ++ [(s, now, .look k pk (some (v, n)))])).cnt k := by
  obtain ⟨T, hord, -⟩ := Lfuda.run_inv cap tickMs num den hrun (STrace.monotone_snoc hmono).1
  obtain ⟨hr, -⟩ := hstep.look_inv
  change some (v, n) = (Lfuda.find1 s now k pk).2 at hr
  unfold lfudaGhost
  rw [daGhost_snoc]
  cases hg : getE s.ents k with
  | none => rw [Lfuda.find1_none hg] at hr; cases hr
  | some e0 =>
    have hc := getE_key hg ▸ hord.cnt_eq e0 (getE_mem hg)
    rw [Lfuda.find1_some hg] at hr
    cases pk with
    | true =>
      obtain ⟨-, rfl⟩ := Prod.mk.inj (Option.some.inj hr)
      exact hc
    | false =>
      obtain ⟨-, rfl⟩ := Prod.mk.inj (Option.some.inj hr)
      rw [daStep_look, hc]
      exact (if_pos rfl).symm

/-- **C14 (dynamically_age).** `dynamically_age()` returns the number of resident entries that had not
been used or aged for strictly longer than the tick. -/
theorem C14_lfuda_age (cap tickMs num den : Nat)
    {tr : STrace LfudaState} {s s' : LfudaState} {now : Time} {n : Nat}
    (hrun : CRun Lfuda.core (Lfuda.init cap tickMs num den) tr s)
    (hstep : CStep Lfuda.core s now (.age n) s')
    (hmono : STrace.monotone (tr ++ [(s, now, .age n)])) :
    n = ((lfudaGhost cap tickMs num den tr).ageAt (keys s.ents) (tickMs * msNs) num den now).2 := by
  obtain ⟨hm1, hm2⟩ := STrace.monotone_snoc hmono
  obtain ⟨T, hord, hT⟩ := Lfuda.run_inv cap tickMs num den hrun hm1
  exact hstep.age_inv.1.trans (hord.dynAge (hT now hm2)).2.1

/-- **C14/C11 (victim).** When an accepted insert of a new key finds the cache full, the residents are
aged first and the entry removed then has a minimal count among them. -/
theorem C14_lfuda_victim (cap tickMs num den : Nat) (hcap : 0 < cap)
    {tr : STrace LfudaState} {s s' : LfudaState} {now : Time} {k : Key} {v : Val} {al : Allow} {d : Time}
    (hrun : CRun Lfuda.core (Lfuda.init cap tickMs num den) tr s)
    (hstep : CStep Lfuda.core s now (.ins k v al d true) s')
    (hmono : STrace.monotone (tr ++ [(s, now, .ins k v al d true)]))
    (hnew : k ∉ keys s.ents) (hfull : cap ≤ s.ents.length) :
    ∃ w, Evicts (keys s.ents) (keys s'.ents) k w ∧
      let aged := ((lfudaGhost cap tickMs num den tr).ageAt (keys s.ents) (tickMs * msNs) num den now).1
      ∀ u ∈ keys s.ents, aged.cnt w ≤ aged.cnt u := by
  obtain ⟨hm1, hm2⟩ := STrace.monotone_snoc hmono
  obtain ⟨T, hord, hT⟩ := Lfuda.run_inv cap tickMs num den hrun hm1
  obtain ⟨-, rfl⟩ := hstep.ins_accepted fun _ => Lfuda.insert1_none (getE_eq_none_iff.mpr hnew) now v al
  rw [if_pos (hord.cap_eq.symm ▸ hfull : s.ents.length ≥ s.cap)]
  obtain ⟨h1, -, h3⟩ := hord.dynAge (hT now hm2)
  cases hl : (Lfuda.dynAge s now).1.ents with
  | nil =>
    have : keys s.ents = [] := List.eq_nil_iff_forall_not_mem.mpr fun x hx => by
      have := (h3 x).mpr hx; rw [hl] at this; exact absurd this List.not_mem_nil
    rw [List.eq_nil_of_map_eq_nil this] at hfull
    exact absurd hfull (Nat.not_le.mpr hcap)
  | cons e t =>
    rw [Lfuda.prune_cons hl]
    have hew : e.key ∈ keys s.ents := (h3 e.key).mp (by rw [hl]; exact List.mem_cons_self)
    refine ⟨e.key, ?_, fun u hu => ?_⟩
    · exact evicts_fileCnt (e := { key := k, val := v, cnt := 1, stamp := now }) hew hnew fun u => by
        show u ∈ keys (delE _ _) ↔ _
        rw [mem_keys_delE, h3]
    · exact cnt_head_le (hl ▸ h1.sorted) (hl ▸ h1.cnt_eq) u (hl ▸ (h3 u).mpr hu)

end Verif
