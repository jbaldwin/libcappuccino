import Verif.Proofs.Order.Ghost
import Verif.Proofs.Refine.Tlru
/-!
# C10 (tlru_cache, utlru_cache: LRU victim when nothing has expired) and C16 (expired-first eviction)
-/
namespace Verif
open Verif.Spec

theorem OrdL.filter {g K : List Key} (h : K = g.filter (fun x => decide (x ∈ K))) (p : Key → Bool) :
    K.filter p = g.filter (fun x => decide (x ∈ K.filter p)) := Rec.Sub.filter h p

namespace Tlru
open Rec (Sub)

theorem sub_foldl_removeKey (ks : List Key) (s : TlruState) :
    Sub (keys s.ents) (keys (ks.foldl removeKey s).ents) := by
  induction ks generalizing s with
  | nil => exact .refl _
  | cons k ks ih => exact (Sub.of_delE s.ents k).trans (ih _)

theorem keys_insert1 {cap : Nat} {s : TlruState} (h : Inv cap s) (now : Time) (k : Key) (v : Val)
    (a : Allow) (d : Time) :
    ∃ l, Sub (keys s.ents) l ∧
      keys (insert1 s now k v a d).1.ents = useStep l (.ins k v a d (insert1 s now k v a d).2) := by
  cases hg : getE s.ents k with
  | some e =>
    obtain rfl := getE_key hg
    rw [insert1_some hg]
    split
    · exact ⟨_, .refl _, keys_delE_snoc ..⟩
    · exact ⟨_, .refl _, rfl⟩
  | none =>
    have hk : k ∉ keys s.ents := getE_eq_none_iff.mp hg
    rw [insert1_none hg]
    by_cases hi : a.ins = true
    · have hp : Sub (keys s.ents) (keys (if s.ents.length ≥ s.cap then prune s now else s).ents) := by
        by_cases hfull : s.ents.length ≥ s.cap
        · obtain ⟨w, ew, -, hpr⟩ := prune_spec h hfull now
          rw [if_pos hfull, hpr]
          exact .of_delE s.ents w
        · rw [if_neg hfull]
          exact .refl _
      rw [if_pos hi]
      exact ⟨_, hp, hp.keys_snoc_fresh hk⟩
    · rw [if_neg hi]
      exact ⟨_, .refl _, rfl⟩

theorem keys_find1 (s : TlruState) (now : Time) (k : Key) (peek : Bool) :
    ∃ l, Sub (keys s.ents) l ∧
      keys (find1 s now k peek).1.ents = useStep l (.look k peek (find1 s now k peek).2) := by
  cases hg : getE s.ents k with
  | none => rw [find1_none hg]; exact ⟨_, .refl _, by cases peek <;> rfl⟩
  | some e =>
    obtain rfl := getE_key hg
    rw [find1_some hg]
    by_cases hd : now < e.dl
    · rw [if_pos hd]
      cases peek with
      | true => exact ⟨_, .refl _, rfl⟩
      | false => exact ⟨_, .refl _, keys_delE_snoc ..⟩
    · rw [if_neg hd]
      exact ⟨_, .of_delE s.ents e.key, by cases peek <;> rfl⟩

/-- `l`: the recency list without what the atom removes (the victim, an expired entry found by a lookup, the
reaped entries). -/
theorem keys_cstep {c : Core TlruState} (L : Like c) {cap : Nat} {s s' : TlruState}
    {now : Time} {x : Atom} (hi : Inv cap s) (hs : CStep c s now x s') :
    ∃ l, Sub (keys s.ents) l ∧ keys s'.ents = useStep l x := by
  cases hs with
  | pre => rw [L.pre]; exact ⟨_, .refl _, rfl⟩
  | ins k v a ttl => rw [L.ins]; exact keys_insert1 hi now k v a _
  | look k peek => rw [L.find]; exact keys_find1 s now k peek
  | del k =>
    rw [L.erase]
    cases hg : getE s.ents k with
    | none => rw [erase1_none hg]; exact ⟨_, .refl _, rfl⟩
    | some e => rw [erase1_some hg]; exact ⟨_, .refl _, keys_delE ..⟩
  | clear hc => rw [L.clear hc]; exact ⟨_, .refl _, rfl⟩
  | reap => rw [L.clean]; exact ⟨_, sub_foldl_removeKey _ s, rfl⟩
  | age => rw [L.age]; exact ⟨_, .refl _, rfl⟩
  | setTtl t => rw [L.ttl]; exact ⟨_, .refl _, rfl⟩
  | obsSize | obsEmpty | obsCap => exact ⟨_, .refl _, rfl⟩

/-- The store is kept in recency order: its keys are the ghost `useOrder tr` restricted to the residents
(`Rec.Sub`, written out), so its head is the least recently used resident. -/
theorem run_inv {c : Core TlruState} (L : Like c) {cap : Nat}
    (R : Refines c .lazy cap (fun _ => Inv cap) abs) {s0 s : TlruState} {tr : STrace TlruState}
    (h0 : Inv cap s0) (he : s0.ents = []) (hr : CRun c s0 tr s) :
    Inv cap s ∧ keys s.ents = (useOrder tr).filter (fun y => decide (y ∈ keys s.ents)) :=
  R.fold_invariant (P := fun g s => Sub g (keys s.ents))
    (fun g s now x s' hi h hs => by
      obtain ⟨l, hl, hk⟩ := keys_cstep L hi hs
      exact hk ▸ (h.trans hl).useStep x)
    h0 (he ▸ Sub.refl []) hr

theorem Like.ins_full {c : Core TlruState} (L : Like c) {cap : Nat} {s s' : TlruState} (h : Inv cap s)
    {now : Time} {k : Key} {v : Val} {al : Allow} {d : Time} (hstep : CStep c s now (.ins k v al d true) s')
    (hnew : k ∉ keys s.ents) (hfull : cap ≤ s.ents.length) :
    ∃ x : Entry, x.key = k ∧ s'.ents = (prune s now).ents ++ [x] := by
  obtain ⟨ttl, -, hok, rfl⟩ := hstep.ins_inv
  rw [L.ins, insert1_none (getE_eq_none_iff.mpr hnew)] at hok ⊢
  rw [if_pos (allowed_of_accepted hok), if_pos (h.cap_eq.symm ▸ hfull)]
  exact ⟨_, rfl, rfl⟩

theorem C10_like {c : Core TlruState} (L : Like c) {cap : Nat}
    (R : Refines c .lazy cap (fun _ => Inv cap) abs) {s0 : TlruState} (h0 : Inv cap s0)
    (he : s0.ents = []) {tr : STrace TlruState} {s s' : TlruState}
    {now : Time} {k : Key} {v : Val} {al : Allow} {d : Time}
    (hrun : CRun c s0 tr s)
    (hstep : CStep c s now (.ins k v al d true) s')
    (hnew : k ∉ keys s.ents) (hfull : cap ≤ s.ents.length)
    (hlive : ∀ e ∈ s.ents, now < e.dl) :
    ∃ w, firstIn (useOrder tr) (keys s.ents) = some w ∧ Evicts (keys s.ents) (keys s'.ents) k w := by
  obtain ⟨hi, ho⟩ := run_inv L R h0 he hrun
  obtain ⟨x, rfl, hs'⟩ := L.ins_full hi hstep hnew hfull
  cases hents : s.ents with
  | nil => rw [hents] at hfull; exact absurd hfull (Nat.not_le.mpr hi.cap_pos)
  | cons e0 t =>
    refine ⟨e0.key, by rw [← hents, Sub.firstIn ho, hents]; rfl, ?_⟩
    rw [hs', prune_live hi hents hlive, ← hents]
    exact evicts_delE_snoc x (by rw [hents]; exact List.mem_cons_self) hnew

theorem C16_like {c : Core TlruState} (L : Like c) {cap : Nat}
    (R : Refines c .lazy cap (fun _ => Inv cap) abs) {s0 : TlruState} (h0 : Inv cap s0)
    (he : s0.ents = []) {tr : STrace TlruState} {s s' : TlruState}
    {now : Time} {k : Key} {v : Val} {al : Allow} {d : Time}
    (hrun : CRun c s0 tr s)
    (hstep : CStep c s now (.ins k v al d true) s')
    (hnew : k ∉ keys s.ents) (hfull : cap ≤ s.ents.length)
    (hexp : ∃ e ∈ s.ents, e.dl ≤ now) :
    ∃ w e, getE s.ents w = some e ∧ e.dl ≤ now ∧ Evicts (keys s.ents) (keys s'.ents) k w ∧
      ∀ u e', getE s.ents u = some e' → now < e'.dl → getE s'.ents u = some e' := by
  obtain ⟨hi, -⟩ := run_inv L R h0 he hrun
  obtain ⟨x, rfl, hs'⟩ := L.ins_full hi hstep hnew hfull
  obtain ⟨w, e, hw, hd, hpr⟩ := prune_expired hi (Nat.le_refl now) hexp
  rw [hs', hpr]
  refine ⟨w, e, hw, hd, evicts_delE_snoc x (mem_keys_of_getE hw) hnew, fun u e' hu hlt => ?_⟩
  have huw : u ≠ w := by
    rintro rfl
    rw [hw] at hu
    cases hu
    exact Nat.not_le.mpr hlt hd
  rw [getE_append_single]
  show (getE (delE s.ents w) u).or _ = _
  rw [getE_delE_ne huw, hu]
  rfl

end Tlru

/-- **C10, tlru_cache**: no resident entry has expired ⇒ the victim is the least recently used one. -/
theorem C10_tlru (cap : Nat) (hcap : 0 < cap) {tr : STrace TlruState} {s s' : TlruState}
    {now : Time} {k : Key} {v : Val} {al : Allow} {d : Time}
    (hrun : CRun Tlru.core (Tlru.init cap) tr s)
    (hstep : CStep Tlru.core s now (.ins k v al d true) s')
    (hnew : k ∉ keys s.ents) (hfull : cap ≤ s.ents.length)
    (hlive : ∀ e ∈ s.ents, now < e.dl) :
    ∃ w, firstIn (useOrder tr) (keys s.ents) = some w ∧ Evicts (keys s.ents) (keys s'.ents) k w :=
  Tlru.C10_like Tlru.like (Tlru.refines cap) (Tlru.inv_init hcap) rfl hrun hstep hnew hfull hlive

theorem C10_utlru (cap : Nat) (hcap : 0 < cap) (ttlMs : Nat) {tr : STrace TlruState} {s s' : TlruState}
    {now : Time} {k : Key} {v : Val} {al : Allow} {d : Time}
    (hrun : CRun Utlru.core (Utlru.init cap ttlMs) tr s)
    (hstep : CStep Utlru.core s now (.ins k v al d true) s')
    (hnew : k ∉ keys s.ents) (hfull : cap ≤ s.ents.length)
    (hlive : ∀ e ∈ s.ents, now < e.dl) :
    ∃ w, firstIn (useOrder tr) (keys s.ents) = some w ∧ Evicts (keys s.ents) (keys s'.ents) k w :=
  Tlru.C10_like Utlru.like (Utlru.refines cap) (Utlru.inv_init hcap ttlMs) rfl hrun hstep hnew hfull hlive

/-- **C16, tlru_cache**: some resident entry has expired ⇒ the entry removed is an expired one, and
(by `Evicts`) every other resident entry, in particular every live one, is kept. -/
theorem C16_tlru (cap : Nat) (hcap : 0 < cap) {tr : STrace TlruState} {s s' : TlruState}
    {now : Time} {k : Key} {v : Val} {al : Allow} {d : Time}
    (hrun : CRun Tlru.core (Tlru.init cap) tr s)
    (hstep : CStep Tlru.core s now (.ins k v al d true) s')
    (hnew : k ∉ keys s.ents) (hfull : cap ≤ s.ents.length)
    (hexp : ∃ e ∈ s.ents, e.dl ≤ now) :
    ∃ w e, getE s.ents w = some e ∧ e.dl ≤ now ∧ Evicts (keys s.ents) (keys s'.ents) k w ∧
      ∀ u e', getE s.ents u = some e' → now < e'.dl → getE s'.ents u = some e' :=
  Tlru.C16_like Tlru.like (Tlru.refines cap) (Tlru.inv_init hcap) rfl hrun hstep hnew hfull hexp

/-- **C16, utlru_cache** (any sequence of `update_ttl` calls before). -/
theorem C16_utlru (cap : Nat) (hcap : 0 < cap) (ttlMs : Nat) {tr : STrace TlruState} {s s' : TlruState}
    {now : Time} {k : Key} {v : Val} {al : Allow} {d : Time}
    (hrun : CRun Utlru.core (Utlru.init cap ttlMs) tr s)
    (hstep : CStep Utlru.core s now (.ins k v al d true) s')
    (hnew : k ∉ keys s.ents) (hfull : cap ≤ s.ents.length)
    (hexp : ∃ e ∈ s.ents, e.dl ≤ now) :
    ∃ w e, getE s.ents w = some e ∧ e.dl ≤ now ∧ Evicts (keys s.ents) (keys s'.ents) k w ∧
      ∀ u e', getE s.ents u = some e' → now < e'.dl → getE s'.ents u = some e' :=
  Tlru.C16_like Utlru.like (Utlru.refines cap) (Utlru.inv_init hcap ttlMs) rfl hrun hstep hnew hfull hexp

end Verif
