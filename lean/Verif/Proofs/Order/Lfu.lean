import Verif.Proofs.Order.Cnt
import Verif.Proofs.Refine.Lfu
/-!
# C11 (lfu_cache): truthful use counts, victim of minimal count
-/
namespace Verif
open Verif.Spec

namespace Lfu

abbrev K : LfuState → List Key := fun s => keys s.ents

structure OInv (cap : Nat) (tr : STrace LfuState) (s : LfuState) : Prop where
  inv : Inv cap s
  cnt : ∀ e ∈ s.ents, e.cnt = useCount K tr e.key
  sorted : CntSorted s.ents

/-- the same, relative to any count function (the ghost is threaded by `CRun.fold_invariant`) -/
def Ok (g : Key → Nat) (s : LfuState) : Prop := (∀ e ∈ s.ents, e.cnt = g e.key) ∧ CntSorted s.ents

theorem Ok.file {g : Key → Nat} {s : LfuState} (h : Ok g s) {l' : List Entry} (hsub : l'.Sublist s.ents)
    {e : Entry} (hk : e.key ∉ keys l') (n : Nat) (he : e.cnt = n) :
    Ok (fun x => if x = e.key then n else g x) { s with ents := fileCnt l' e } := by
  refine ⟨forall_mem_fileCnt (he.trans (if_pos rfl).symm) fun x hx => ?_,
    cntSorted_fileCnt (h.2.sublist hsub) e⟩
  have hne : x.key ≠ e.key := fun hh => hk (hh ▸ mem_keys_of_mem hx)
  exact (h.1 x (hsub.subset hx)).trans (if_neg hne).symm

theorem Ok.access {g : Key → Nat} {s : LfuState} (h : Ok g s) {k : Key} {e e' : Entry}
    (hg : getE s.ents k = some e) (hk' : e'.key = k) (hc' : e'.cnt = e.cnt) :
    Ok (fun x => if x = k then g k + 1 else g x) { s with ents := access s.ents e' } := by
  subst hk'
  exact h.file (l' := delE s.ents e'.key) List.filter_sublist (e := { e' with cnt := e'.cnt + 1 })
    (not_mem_keys_delE_self _ _) (g e'.key + 1)
    (by show e'.cnt + 1 = _; rw [hc', h.1 e (getE_mem hg), getE_key hg])

theorem ok_step {g : Key → Nat} {s s' : LfuState} {now : Time} {x : Atom}
    (h : Ok g s) (hs : CStep core s now x s') : Ok (cntStep (K s) g x) s' := by
  cases hs with
  | ins k v a ttl =>
    show Ok (cntStep _ g (.ins k v a _ (insert1 s k v a).2)) (insert1 s k v a).1
    cases hg : getE s.ents k with
    | some e =>
      have hmem : k ∈ K s := mem_keys_of_getE hg
      rw [Lfu.insert1_some hg]
      by_cases ha : a.upd = true
      · rw [if_pos ha, cntStep_ins, if_pos hmem]
        exact h.access (e' := { e with val := v }) hg (getE_key hg : e.key = k) rfl
      · rw [if_neg ha]; exact h
    | none =>
      have hk : k ∉ K s := getE_eq_none_iff.mp hg
      rw [Lfu.insert1_none hg]
      by_cases ha : a.ins = true
      · rw [if_pos ha, cntStep_ins, if_neg hk]
        have hsub : (if s.ents.length ≥ s.cap then s.ents.tail else s.ents).Sublist s.ents := by
          split
          · exact List.tail_sublist _
          · exact List.Sublist.refl _
        exact h.file hsub (e := { key := k, val := v, cnt := 1 })
          (fun hm => hk ((hsub.map _).subset hm)) 1 rfl
      · rw [if_neg ha]; exact h
  | look k peek =>
    show Ok (cntStep _ g (.look k peek (find1 s k peek).2)) (find1 s k peek).1
    cases hg : getE s.ents k with
    | none => rw [Lfu.find1_none hg]; cases peek <;> exact h
    | some e =>
      rw [Lfu.find1_some hg]
      cases peek with
      | true => exact h
      | false => exact h.access (e' := e) hg (getE_key hg) rfl
  | del k =>
    show Ok g (erase1 s k).1
    unfold erase1
    cases getE s.ents k with
    | none => exact h
    | some e => exact ⟨fun y hy => h.1 y (mem_of_mem_delE hy), cntSorted_delE h.2 _⟩
  | clear hc => cases hc
  | pre | reap | age | setTtl | obsSize | obsEmpty | obsCap => exact h

/-- Along every run from the empty cache: `Inv`, every stored count is the ghost's, and the entries are sorted
by count. -/
theorem run_inv {cap : Nat} (hcap : 0 < cap) {tr : STrace LfuState} {s : LfuState}
    (hrun : CRun core (init cap) tr s) : OInv cap tr s := by
  obtain ⟨hi, hc, hs⟩ := (refines cap).fold_invariant (f := fun g x => cntStep (K x.1) g x.2.2)
    (P := Ok) (g0 := fun _ => 0) (fun _ _ _ _ _ _ h hs => ok_step h hs)
    (inv_init hcap) ⟨fun _ h => absurd h List.not_mem_nil, List.Pairwise.nil⟩ hrun
  exact ⟨hi, hc, hs⟩

end Lfu

/-- **C11 (counts).** Every lookup that finds an entry reports its use count: 1 at creation, +1 per
accepted update and per successful non-peek lookup — the current one included when not peeking. -/
theorem C11_lfu_count (cap : Nat) (hcap : 0 < cap) {tr : STrace LfuState} {s s' : LfuState}
    {now : Time} {k : Key} {pk : Bool} {v : Val} {n : Nat}
    (hrun : CRun Lfu.core (Lfu.init cap) tr s)
    (hstep : CStep Lfu.core s now (.look k pk (some (v, n))) s') :
    n = useCount (fun s => keys s.ents) (tr ++ [(s, now, .look k pk (some (v, n)))]) k := by
  have h := Lfu.run_inv hcap hrun
  obtain ⟨hr, -⟩ := hstep.look_inv
  change _ = (Lfu.find1 s k pk).2 at hr
  rw [useCount_snoc]
  cases hg : getE s.ents k with
  | none => rw [Lfu.find1_none hg] at hr; cases hr
  | some e =>
    have hc : e.cnt = useCount Lfu.K tr k := getE_key hg ▸ h.cnt e (getE_mem hg)
    rw [Lfu.find1_some hg] at hr
    cases pk with
    | true =>
      obtain ⟨-, rfl⟩ := Prod.mk.inj (Option.some.inj hr)
      exact hc
    | false =>
      obtain ⟨-, rfl⟩ := Prod.mk.inj (Option.some.inj hr)
      rw [cntStep_look, hc]
      exact (if_pos rfl).symm

/-- **C11 (victim).** When an accepted insert of a new key finds the cache full, the entry removed has
a use count that is minimal among the resident entries. -/
theorem C11_lfu_victim (cap : Nat) (hcap : 0 < cap) {tr : STrace LfuState} {s s' : LfuState}
    {now : Time} {k : Key} {v : Val} {al : Allow} {d : Time}
    (hrun : CRun Lfu.core (Lfu.init cap) tr s)
    (hstep : CStep Lfu.core s now (.ins k v al d true) s')
    (hnew : k ∉ keys s.ents) (hfull : cap ≤ s.ents.length) :
    ∃ w, Evicts (keys s.ents) (keys s'.ents) k w ∧
      ∀ u ∈ keys s.ents, useCount (fun s => keys s.ents) tr w ≤ useCount (fun s => keys s.ents) tr u := by
  have h := Lfu.run_inv hcap hrun
  obtain ⟨-, rfl⟩ := hstep.ins_accepted fun _ => Lfu.insert1_none (getE_eq_none_iff.mpr hnew) v al
  rw [if_pos (h.inv.cap_eq.symm ▸ hfull : s.ents.length ≥ s.cap)]
  have hcnt := h.cnt
  have hsorted := h.sorted
  have hnd := h.inv.nodup
  cases hl : s.ents with
  | nil => rw [hl] at hfull; exact absurd hfull (Nat.not_le.mpr hcap)
  | cons e0 t =>
    rw [hl] at hcnt hsorted hnd hnew
    refine ⟨e0.key, ?_, cnt_head_le hsorted hcnt⟩
    refine evicts_fileCnt (e := { key := k, val := v, cnt := 1 }) List.mem_cons_self hnew fun u => ?_
    have := mem_keys_delE (l := e0 :: t) (k := e0.key) (x := u)
    rwa [← tail_eq_delE hnd] at this

end Verif
