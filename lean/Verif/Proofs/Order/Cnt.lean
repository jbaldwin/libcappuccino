import Verif.Proofs.Order.Ghost
/-!
# The multimap order of lfu_cache / lfuda_cache: sorted by count, head minimal

Both models keep their entries in the order of `m_lfu_list` (a `std::multimap` keyed by use count) and
evict its head.  `fileCnt` and `delE` keep it sorted by count, so the head has a minimal count — minimal also
in terms of any count function the stored counts agree with (`cnt_head_le`), which is how the victim theorems
of C11 and C14 speak of the ghost.
-/
namespace Verif
open Verif.Spec

abbrev CntSorted (l : List Entry) : Prop := l.Pairwise (fun x y => x.cnt ≤ y.cnt)

theorem cntSorted_fileCnt {l : List Entry} (h : CntSorted l) (e : Entry) : CntSorted (fileCnt l e) := by
  rw [fileCnt_eq]; exact file_sorted (·.cnt) h e

theorem cntSorted_delE {l : List Entry} (h : CntSorted l) (k : Key) : CntSorted (delE l k) :=
  List.Pairwise.filter _ h

theorem forall_mem_fileCnt {P : Entry → Prop} {l : List Entry} {e : Entry} (he : P e)
    (hl : ∀ x ∈ l, P x) : ∀ x ∈ fileCnt l e, P x := fun x hx => by
  rcases mem_fileCnt.mp hx with rfl | hx
  · exact he
  · exact hl x hx

theorem cnt_head_le {e : Entry} {t : List Entry} (hs : CntSorted (e :: t)) {g : Key → Nat}
    (hc : ∀ x ∈ e :: t, x.cnt = g x.key) : ∀ u ∈ keys (e :: t), g e.key ≤ g u := by
  intro u hu
  obtain ⟨x, hx, rfl⟩ := List.mem_map.mp hu
  rw [← hc e List.mem_cons_self, ← hc x hx]
  rcases List.mem_cons.mp hx with rfl | hx
  · exact Nat.le_refl _
  · exact (List.pairwise_cons.mp hs).1 x hx

theorem evicts_fileCnt {l l' : List Entry} {e : Entry} {w : Key} (hw : w ∈ keys l)
    (hk : e.key ∉ keys l) (h : ∀ u, u ∈ keys l' ↔ u ∈ keys l ∧ u ≠ w) :
    Evicts (keys l) (keys (fileCnt l' e)) e.key w :=
  Evicts.of_mem_iff hw hk fun u => by rw [mem_keys_fileCnt, h]

end Verif
