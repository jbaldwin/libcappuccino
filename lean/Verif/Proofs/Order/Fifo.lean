import Verif.Proofs.Order.Ghost
import Verif.Proofs.Refine.Fifo
/-!
# C12 (fifo_cache): the victim is the earliest-inserted resident entry
-/
namespace Verif
open Verif.Spec

namespace Fifo

/-- `L` is the ghost `g` restricted to the keys of `L` (the same notion as `Rec.Sub`) -/
def Restr (g L : List Key) : Prop := L = g.filter (fun x => decide (x ∈ L))

theorem Restr.filter {g L : List Key} (h : Restr g L) (p : Key → Bool) :
    Restr (g.filter p) (L.filter p) := Rec.Sub.filter_both h p

/-- The model's key list is itself an insertion-rank list: every atom moves it by `bornStep`, an
evicting insert after dropping the head. -/
theorem keys_cstep {cap : Nat} {s s' : FifoState} {now : Time} {x : Atom}
    (hi : Inv cap s) (hs : CStep core s now x s') :
    ∃ l, Rec.Sub (keys s.ents) l ∧ keys s'.ents = bornStep (keys s.ents) l x := by
  cases hs with
  | ins k v a ttl =>
    cases hg : getE s.ents k with
    | some e =>
      have hk : k ∈ keys s.ents := mem_keys_of_getE hg
      rw [show core.insert1 s now k v a ttl = _ from insert1_some hg v a]
      by_cases ha : a.upd = true
      · rw [if_pos ha]; exact ⟨_, .refl _, (keys_setVal ..).trans (if_pos hk).symm⟩
      · rw [if_neg ha]; exact ⟨_, .refl _, rfl⟩
    | none =>
      have hk : k ∉ keys s.ents := getE_eq_none_iff.mp hg
      rw [show core.insert1 s now k v a ttl = _ from insert1_none hg v a]
      by_cases ha : a.ins = true
      · rw [if_pos ha]
        by_cases hfull : s.ents.length ≥ s.cap
        · obtain ⟨w, -, -, hpr⟩ := exists_tail_eq_delE hi.nodup ((inv_iff.mp hi).ne_nil hfull)
          rw [if_pos hfull, hpr]
          exact ⟨_, .of_delE _ w, ((Rec.Sub.of_delE _ w).keys_snoc_fresh hk).trans (if_neg hk).symm⟩
        · rw [if_neg hfull]
          exact ⟨_, .refl _, ((Rec.Sub.refl _).keys_snoc_fresh hk).trans (if_neg hk).symm⟩
      · rw [if_neg ha]; exact ⟨_, .refl _, rfl⟩
  | del k =>
    show ∃ l, _ ∧ keys (erase1 s k).1.ents = bornStep _ l (.del k (erase1 s k).2)
    unfold erase1
    cases hg : getE s.ents k with
    | some e => exact ⟨_, .refl _, keys_delE ..⟩
    | none => exact ⟨_, .refl _, rfl⟩
  | clear hc => cases hc
  | pre | look | reap | age | setTtl | obsSize | obsEmpty | obsCap => exact ⟨_, .refl _, rfl⟩

/-- Along every run from the empty cache: `Inv`, and the entries stand in the order of their creation. -/
theorem run_inv {cap : Nat} (hcap : 0 < cap) {tr : STrace FifoState} {s : FifoState}
    (hrun : CRun core (init cap) tr s) :
    Inv cap s ∧ Rec.Sub (bornOrder (fun s => keys s.ents) tr) (keys s.ents) :=
  (refines cap).fold_invariant (P := fun g s => Rec.Sub g (keys s.ents))
    (fun g s now x s' hi h hs => by
      obtain ⟨l, hl, hk⟩ := keys_cstep hi hs
      exact hk ▸ (h.trans hl).bornStep _ x)
    (inv_init hcap) (.refl _) hrun

end Fifo

/-- **C12.** When an accepted insert of a new key finds the cache full, the entry removed is the
resident key whose creating insert is earliest (`bornOrder`: updates and lookups never move a key; a
key erased or evicted and inserted again counts from its re-insertion). -/
theorem C12_fifo (cap : Nat) (hcap : 0 < cap) {tr : STrace FifoState} {s s' : FifoState}
    {now : Time} {k : Key} {v : Val} {al : Allow} {d : Time}
    (hrun : CRun Fifo.core (Fifo.init cap) tr s)
    (hstep : CStep Fifo.core s now (.ins k v al d true) s')
    (hnew : k ∉ keys s.ents) (hfull : cap ≤ s.ents.length) :
    ∃ w, firstIn (bornOrder (fun s => keys s.ents) tr) (keys s.ents) = some w ∧
      Evicts (keys s.ents) (keys s'.ents) k w := by
  obtain ⟨hI, hR⟩ := Fifo.run_inv hcap hrun
  have hge : s.ents.length ≥ s.cap := hI.cap_eq.symm ▸ hfull
  obtain ⟨-, rfl⟩ := hstep.ins_accepted fun _ => Fifo.insert1_none (getE_eq_none_iff.mpr hnew) v al
  rw [if_pos hge]
  obtain ⟨w, hw, hev⟩ := evicts_tail_snoc { key := k, val := v } hI.nodup
    ((Fifo.inv_iff.mp hI).ne_nil hge) hnew
  exact ⟨w, hR.firstIn.trans hw, hev⟩

end Verif
