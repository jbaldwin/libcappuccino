import Verif.Proofs.Order.Ghost
import Verif.Proofs.Refine.Rec
/-!
# C10 (lru_cache) and C13 (mru_cache): the victim by recency of use
-/
namespace Verif
open Verif.Spec

namespace Rec

theorem keys_touch (l : List Entry) (e : Entry) :
    keys (touch l e) = dropKey (keys l) e.key ++ [e.key] := keys_delE_snoc l e.key e

/-- The model's key list is itself a recency list: every atom moves it by `useStep`, an evicting
insert after dropping the victim. -/
theorem keys_cstep (vic : Victim) {cap : Nat} {s s' : RecState} {now : Time} {x : Atom}
    (hi : Inv cap s) (hs : CStep (core vic) s now x s') :
    ∃ l, Sub (keys s.ents) l ∧ keys s'.ents = useStep l x := by
  cases hs with
  | ins k v a ttl =>
    cases hg : getE s.ents k with
    | some e =>
      rw [show (core vic).insert1 s now k v a ttl = _ from insert1_some hg v a]
      obtain rfl := getE_key hg
      by_cases ha : a.upd = true
      · rw [if_pos ha]; exact ⟨_, .refl _, keys_touch ..⟩
      · rw [if_neg ha]; exact ⟨_, .refl _, rfl⟩
    | none =>
      have hk : k ∉ keys s.ents := getE_eq_none_iff.mp hg
      rw [show (core vic).insert1 s now k v a ttl = _ from insert1_none hg v a]
      by_cases ha : a.ins = true
      · rw [if_pos ha]
        by_cases hfull : s.ents.length ≥ s.cap
        · obtain ⟨w, -, -, hpr⟩ := prune_eq_delE vic hi.nodup ((inv_iff.mp hi).ne_nil hfull)
          rw [if_pos hfull, hpr]
          exact ⟨_, .of_delE _ w, (Sub.of_delE _ w).keys_snoc_fresh hk⟩
        · rw [if_neg hfull]
          exact ⟨_, .refl _, (Sub.refl _).keys_snoc_fresh hk⟩
      · rw [if_neg ha]; exact ⟨_, .refl _, rfl⟩
  | look k peek =>
    cases hg : getE s.ents k with
    | some e =>
      rw [show (core vic).find1 s now k peek = _ from find1_some hg peek]
      obtain rfl := getE_key hg
      cases peek with
      | true => exact ⟨_, .refl _, rfl⟩
      | false => exact ⟨_, .refl _, keys_touch ..⟩
    | none =>
      rw [show (core vic).find1 s now k peek = _ from find1_none hg peek]
      exact ⟨_, .refl _, by cases peek <;> rfl⟩
  | del k =>
    show ∃ l, _ ∧ keys (erase1 s k).1.ents = useStep l (.del k (erase1 s k).2)
    unfold erase1
    cases hg : getE s.ents k with
    | some e => exact ⟨_, .refl _, keys_delE ..⟩
    | none => exact ⟨_, .refl _, rfl⟩
  | clear hc => cases hc
  | pre | reap | age | setTtl | obsSize | obsEmpty | obsCap => exact ⟨_, .refl _, rfl⟩

/-- Along every run from the empty cache: `Inv`, and the entries stand in the order of their last use. -/
theorem run_inv (vic : Victim) {cap : Nat} (hcap : 0 < cap) {tr : STrace RecState} {s : RecState}
    (hrun : CRun (core vic) (init cap) tr s) : Inv cap s ∧ Sub (useOrder tr) (keys s.ents) :=
  (refines vic cap).fold_invariant (P := fun g s => Sub g (keys s.ents))
    (fun g s now x s' hi h hs => by
      obtain ⟨l, hl, hk⟩ := keys_cstep vic hi hs
      exact hk ▸ (h.trans hl).useStep x)
    (inv_init hcap) (.refl _) hrun

theorem ins_full (vic : Victim) {cap : Nat} {s s' : RecState} {now : Time} {k : Key} {v : Val}
    {al : Allow} {d : Time} (hi : Inv cap s)
    (hstep : CStep (core vic) s now (.ins k v al d true) s')
    (hnew : k ∉ keys s.ents) (hfull : cap ≤ s.ents.length) :
    s'.ents = prune vic s.ents ++ [{ key := k, val := v }] := by
  obtain ⟨-, rfl⟩ := hstep.ins_accepted fun _ => insert1_none (getE_eq_none_iff.mpr hnew) v al
  exact congrArg (· ++ _) (if_pos (hi.cap_eq.symm ▸ hfull))

end Rec

/-- **C10, lru_cache.** When an accepted insert of a new key finds the cache full, the entry removed is
the resident key whose most recent use (accepted insert/update, successful non-peek lookup) is oldest. -/
theorem C10_lru (cap : Nat) (hcap : 0 < cap) {tr : STrace RecState} {s s' : RecState}
    {now : Time} {k : Key} {v : Val} {al : Allow} {d : Time}
    (hrun : CRun Lru.core (Rec.init cap) tr s)
    (hstep : CStep Lru.core s now (.ins k v al d true) s')
    (hnew : k ∉ keys s.ents) (hfull : cap ≤ s.ents.length) :
    ∃ w, firstIn (useOrder tr) (keys s.ents) = some w ∧ Evicts (keys s.ents) (keys s'.ents) k w := by
  obtain ⟨hi, ho⟩ := Rec.run_inv .oldest hcap hrun
  obtain ⟨w, hw, hev⟩ := evicts_tail_snoc { key := k, val := v } hi.nodup
    ((Rec.inv_iff.mp hi).ne_nil (hi.cap_eq ▸ hfull)) hnew
  exact ⟨w, ho.firstIn.trans hw, Rec.ins_full .oldest hi hstep hnew hfull ▸ hev⟩

/-- **C13, mru_cache.** When an accepted insert of a new key finds the cache full, the entry removed is
the resident key whose most recent use is newest; the new key then becomes the most recently used. -/
theorem C13_mru (cap : Nat) (hcap : 0 < cap) {tr : STrace RecState} {s s' : RecState}
    {now : Time} {k : Key} {v : Val} {al : Allow} {d : Time}
    (hrun : CRun Mru.core (Rec.init cap) tr s)
    (hstep : CStep Mru.core s now (.ins k v al d true) s')
    (hnew : k ∉ keys s.ents) (hfull : cap ≤ s.ents.length) :
    ∃ w, lastIn (useOrder tr) (keys s.ents) = some w ∧ Evicts (keys s.ents) (keys s'.ents) k w ∧
      lastIn (useOrder (tr ++ [(s, now, .ins k v al d true)])) (keys s'.ents) = some k := by
  obtain ⟨hi, ho⟩ := Rec.run_inv .newest hcap hrun
  obtain ⟨-, ho'⟩ := Rec.run_inv .newest hcap (hrun.append (.single hstep))
  have he := Rec.ins_full .newest hi hstep hnew hfull
  obtain ⟨w, hw, hev⟩ := evicts_dropLast_snoc { key := k, val := v } hi.nodup
    ((Rec.inv_iff.mp hi).ne_nil (hi.cap_eq ▸ hfull)) hnew
  refine ⟨w, ho.lastIn.trans hw, he ▸ hev, ho'.lastIn.trans ?_⟩
  rw [he, keys_append]
  exact List.getLast?_concat ..

end Verif
