import Verif.Proofs.Order.Cnt
import Verif.Proofs.Refine.Lfuda
/-!
# The aging walk of lfuda_cache, entry by entry

`do_dynamic_age` re-files every idle entry under its scaled count (`Lfuda.ageOne`, folded over the idle
keys by `Lfuda.dynAge`).  Re-filing moves entries around in the multimap order, so the list afterwards is
described up to permutation: it is the old list with the walked-over entries aged (`foldl_ageOne_perm`),
and it is still sorted by count (`foldl_ageOne_sorted`).
-/
namespace Verif
open Verif.Spec

namespace Lfuda

/-- an entry after an aging walk over the keys satisfying `P` -/
def agedIf (now : Time) (num den : Nat) (P : Key → Prop) [DecidablePred P] (e : Entry) : Entry :=
  if P e.key then { e with cnt := e.cnt * num / den, stamp := now } else e

section
variable {now : Time} {num den : Nat} {P : Key → Prop} [DecidablePred P]

theorem agedIf_key (e : Entry) : (agedIf now num den P e).key = e.key := by
  unfold agedIf; split <;> rfl

theorem keys_map_agedIf (l : List Entry) : keys (l.map (agedIf now num den P)) = keys l :=
  keys_map_key agedIf_key l

theorem map_agedIf_of_not {l : List Entry} (h : ∀ e ∈ l, ¬ P e.key) :
    l.map (agedIf now num den P) = l :=
  (List.map_congr_left (g := id) fun e he => if_neg (h e he)).trans (List.map_id _)

end

theorem ageOne_perm (now : Time) (num den : Nat) {l : List Entry} (hn : (keys l).Nodup) (k : Key) :
    (ageOne now num den l k).Perm (l.map (agedIf now num den (· = k))) := by
  unfold ageOne
  cases hg : getE l k with
  | none =>
    rw [map_agedIf_of_not fun e he (h : e.key = k) =>
      getE_eq_none_iff.mp hg (h ▸ mem_keys_of_mem he)]
  | some e =>
    refine (fileCnt_perm _ _).trans (List.Perm.trans ?_ ((delE_perm hn hg).map _).symm)
    rw [List.map_cons, map_agedIf_of_not (P := (· = k)) (l := delE l k) fun x hx =>
      (mem_keys_delE.mp (mem_keys_of_mem hx)).2, agedIf, if_pos (getE_key hg)]

theorem foldl_ageOne_perm (now : Time) (num den : Nat) (ks : List Key) (hks : ks.Nodup)
    {l : List Entry} (hn : (keys l).Nodup) :
    (ks.foldl (ageOne now num den) l).Perm (l.map (agedIf now num den (· ∈ ks))) := by
  induction ks generalizing l with
  | nil => rw [map_agedIf_of_not fun _ _ => List.not_mem_nil]; exact .refl _
  | cons k ks ih =>
    rw [List.nodup_cons] at hks
    have h1 := ageOne_perm now num den hn k
    have hn1 : (keys (ageOne now num den l k)).Nodup :=
      nodup_keys_perm h1.symm (by rw [keys_map_agedIf]; exact hn)
    refine (ih hks.2 hn1).trans ((h1.map _).trans (List.Perm.of_eq ?_))
    rw [List.map_map]
    refine List.map_congr_left fun e _ => ?_
    show agedIf now num den (· ∈ ks) (agedIf now num den (· = k) e) = agedIf now num den (· ∈ k :: ks) e
    unfold agedIf
    by_cases hk : e.key = k
    · rw [if_pos hk, if_neg (hk ▸ hks.1), if_pos (hk ▸ List.mem_cons_self)]
    · rw [if_neg hk]
      by_cases hm : e.key ∈ ks
      · rw [if_pos hm, if_pos (List.mem_cons_of_mem _ hm)]
      · rw [if_neg hm, if_neg fun h => hm ((List.mem_cons.mp h).resolve_left hk)]

theorem keys_foldl_ageOne_perm (now : Time) (num den : Nat) (ks : List Key) (hks : ks.Nodup)
    {l : List Entry} (hn : (keys l).Nodup) : (keys (ks.foldl (ageOne now num den) l)).Perm (keys l) :=
  keys_map_agedIf (P := (· ∈ ks)) l ▸ keys_perm (foldl_ageOne_perm now num den ks hks hn)

theorem foldl_ageOne_sorted (now : Time) (num den : Nat) (ks : List Key) {l : List Entry}
    (hs : CntSorted l) : CntSorted (ks.foldl (ageOne now num den) l) := by
  induction ks generalizing l with
  | nil => exact hs
  | cons k ks ih =>
    refine ih ?_
    unfold ageOne
    cases getE l k with
    | none => exact hs
    | some e => exact cntSorted_fileCnt (cntSorted_delE hs _) _

end Lfuda
end Verif
