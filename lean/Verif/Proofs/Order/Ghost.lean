import Verif.Spec.Order
import Verif.Proofs.ModelLemmas
/-!
# Shared by all policy proofs: a monotone history as a monotone annotated trace, the ghosts one atom at a
time (and the aging ghost at an aging point), an accepted insert took the accepting branch, `Evicts`, and the one
notion the list-ordered policies share: the resident keys are the ghost order filtered.
-/
namespace Verif
open Verif.Spec

namespace Core
variable {σ : Type} (c : Core σ)

theorem steps_of_history (s : σ) (ops : List (Time × Op)) (t0 : Time) (ht : TimesFrom t0 ops) :
    ∃ tr : STrace σ, CRun c s tr (c.runA s ops).1 ∧ tr.atoms = (c.runA s ops).2.2 ∧ STrace.monotone tr := by
  obtain ⟨tr, h1, h2⟩ := c.runA_crun s ops
  refine ⟨tr, h1, h2, ?_⟩
  have hp := c.runA_pairwise s ops t0 ht
  rw [← h2] at hp
  simp only [STrace.atoms, List.pairwise_map] at hp
  exact hp

end Core

theorem STrace.monotone_prefix {σ : Type} {p q : STrace σ} {x : σ × Time × Atom}
    (h : STrace.monotone (p ++ x :: q)) : STrace.monotone (p ++ [x]) := by
  unfold STrace.monotone at *
  rw [List.append_cons] at h
  exact (List.pairwise_append.mp h).1

theorem STrace.monotone_snoc {σ : Type} {p : STrace σ} {y : σ × Time × Atom}
    (h : STrace.monotone (p ++ [y])) : STrace.monotone p ∧ ∀ x ∈ p, x.2.1 ≤ y.2.1 := by
  have := List.pairwise_append.mp h
  exact ⟨this.1, fun x hx => this.2.2 x hx y (List.mem_cons_self ..)⟩

theorem useOrder_snoc {σ : Type} (p : STrace σ) (x : σ × Time × Atom) :
    useOrder (p ++ [x]) = useStep (useOrder p) x.2.2 := by
  simp only [useOrder, List.foldl_append, List.foldl_cons, List.foldl_nil]

theorem bornOrder_snoc {σ : Type} (K : σ → List Key) (p : STrace σ) (x : σ × Time × Atom) :
    bornOrder K (p ++ [x]) = bornStep (K x.1) (bornOrder K p) x.2.2 := by
  simp only [bornOrder, List.foldl_append, List.foldl_cons, List.foldl_nil]

theorem useCount_snoc {σ : Type} (K : σ → List Key) (p : STrace σ) (x : σ × Time × Atom) :
    useCount K (p ++ [x]) = cntStep (K x.1) (useCount K p) x.2.2 := by
  simp only [useCount, List.foldl_append, List.foldl_cons, List.foldl_nil]

theorem daGhost_snoc {σ : Type} (cap tick num den : Nat) (K : σ → List Key) (p : STrace σ)
    (s : σ) (now : Time) (x : Atom) :
    daGhost cap tick num den K (p ++ [(s, now, x)]) =
      daStep cap tick num den (K s) now (daGhost cap tick num den K p) x := by
  simp only [daGhost, List.foldl_append, List.foldl_cons, List.foldl_nil]

theorem cntStep_ins (rk : List Key) (g : Key → Nat) (k : Key) (v : Val) (a : Allow) (d : Time) :
    cntStep rk g (.ins k v a d true) = fun x => if x = k then (if k ∈ rk then g k + 1 else 1) else g x := rfl

theorem cntStep_look (rk : List Key) (g : Key → Nat) (k : Key) (r : Val × Nat) :
    cntStep rk g (.look k false (some r)) = fun x => if x = k then g k + 1 else g x := rfl

theorem daStep_ins (cap tick num den : Nat) (rk : List Key) (now : Time) (g : DA) (k : Key) (v : Val)
    (a : Allow) (d : Time) :
    daStep cap tick num den rk now g (.ins k v a d true) =
      if k ∈ rk then g.use k now
      else if cap ≤ rk.length then ((g.ageAt rk tick num den now).1).create k now
      else g.create k now := rfl

theorem daStep_look (cap tick num den : Nat) (rk : List Key) (now : Time) (g : DA) (k : Key) (r : Val × Nat) :
    daStep cap tick num den rk now g (.look k false (some r)) = g.use k now := rfl

theorem Spec.DA.ageAt_pos (g : DA) {rk : List Key} {tick : Nat} (num den : Nat) {now : Time}
    {x : Key} (h : x ∈ rk ∧ decide (g.stamp x + tick < now) = true) :
    (g.ageAt rk tick num den now).1.cnt x = g.cnt x * num / den ∧
      (g.ageAt rk tick num den now).1.stamp x = now :=
  ⟨if_pos h, if_pos h⟩

theorem Spec.DA.ageAt_neg (g : DA) {rk : List Key} {tick : Nat} (num den : Nat) {now : Time}
    {x : Key} (h : ¬ (x ∈ rk ∧ decide (g.stamp x + tick < now) = true)) :
    (g.ageAt rk tick num den now).1.cnt x = g.cnt x ∧
      (g.ageAt rk tick num den now).1.stamp x = g.stamp x :=
  ⟨if_neg h, if_neg h⟩

/-- `e`: the case equation of the model's `insert1` the call is in (`ModelLemmas.lean`); `s'` becomes that
branch's state -/
theorem CStep.ins_accepted {σ : Type} {c : Core σ} {s s' : σ} {now : Time} {k : Key} {v : Val} {al : Allow}
    {d : Time} (h : CStep c s now (.ins k v al d true) s') {a : Prop} [Decidable a] {t r : σ}
    (e : ∀ ttl, c.insert1 s now k v al ttl = if a then (t, true) else (r, false)) : a ∧ s' = t := by
  obtain ⟨ttl, -, hok, rfl⟩ := h.ins_inv
  rw [e ttl] at hok ⊢
  have ha := allowed_of_accepted hok
  exact ⟨ha, by rw [if_pos ha]⟩

theorem Spec.Evicts.of_mem_iff {l l' : List Key} {k w : Key} (hw : w ∈ l) (hk : k ∉ l)
    (h : ∀ u, u ∈ l' ↔ u = k ∨ (u ∈ l ∧ u ≠ w)) : Evicts l l' k w := by
  have hwk : w ≠ k := fun e => hk (e ▸ hw)
  refine ⟨hw, hwk, fun hm => ?_, fun u hu hne => (h u).mpr (Or.inr ⟨hu, hne⟩)⟩
  rcases (h w).mp hm with e | ⟨_, ne⟩
  · exact hwk e
  · exact ne rfl

theorem evicts_delE_snoc {l : List Entry} {w : Key} (x : Entry) (hw : w ∈ keys l) (hk : x.key ∉ keys l) :
    Evicts (keys l) (keys (delE l w ++ [x])) x.key w :=
  Evicts.of_mem_iff hw hk fun u => by
    rw [keys_append, List.mem_append, mem_keys_delE, or_comm]
    show u ∈ [x.key] ∨ _ ↔ _
    rw [List.mem_singleton]

theorem evicts_tail_snoc {l : List Entry} (x : Entry) (hn : (keys l).Nodup) (hl : l ≠ []) (hk : x.key ∉ keys l) :
    ∃ w, (keys l).head? = some w ∧ Evicts (keys l) (keys (l.tail ++ [x])) x.key w := by
  cases l with
  | nil => exact absurd rfl hl
  | cons e t =>
    have := evicts_delE_snoc x (w := e.key) List.mem_cons_self hk
    rw [← tail_eq_delE hn] at this
    exact ⟨e.key, rfl, this⟩

theorem evicts_dropLast_snoc {l : List Entry} (x : Entry) (hn : (keys l).Nodup) (hl : l ≠ [])
    (hk : x.key ∉ keys l) :
    ∃ w, (keys l).getLast? = some w ∧ Evicts (keys l) (keys (l.dropLast ++ [x])) x.key w := by
  obtain ⟨t, e, rfl⟩ : ∃ t e, l = t ++ [e] := ⟨_, _, (List.dropLast_concat_getLast hl).symm⟩
  have := evicts_delE_snoc x (w := e.key) (mem_keys_of_mem (List.mem_append_right t List.mem_cons_self)) hk
  rw [← dropLast_eq_delE hn] at this
  exact ⟨e.key, by rw [keys_append]; exact List.getLast?_concat .., by rwa [List.dropLast_concat]⟩

/-! ## `Rec.Sub g l`: `l` is the ghost order `g` filtered (lru, mru, fifo, tlru, utlru) -/

theorem mem_dropKey {l : List Key} {k x : Key} : x ∈ dropKey l k ↔ x ∈ l ∧ x ≠ k := by
  simp [dropKey]

theorem dropKey_of_not_mem {l : List Key} {k : Key} (h : k ∉ l) : dropKey l k = l :=
  List.filter_eq_self.mpr fun a ha => by
    have : a ≠ k := fun e => h (e ▸ ha)
    simp [this]

theorem keys_delE_snoc (l : List Entry) (k : Key) (e : Entry) :
    keys (delE l k ++ [e]) = dropKey (keys l) k ++ [e.key] :=
  (keys_append ..).trans (congrArg (· ++ [e.key]) (keys_delE l k))

namespace Rec

def Sub (g l : List Key) : Prop := l = g.filter (fun x => decide (x ∈ l))

theorem Sub.of_filter (g : List Key) (p : Key → Bool) : Sub g (g.filter p) :=
  List.filter_congr fun x hx => by
    by_cases hp : p x = true <;> simp [List.mem_filter, hx, hp]

theorem Sub.filter {g l : List Key} (h : Sub g l) (p : Key → Bool) : Sub g (l.filter p) := by
  have e : l.filter p = g.filter (fun a => p a && decide (a ∈ l)) :=
    (congrArg (List.filter p) h).trans List.filter_filter
  rw [e]; exact Sub.of_filter g _

theorem Sub.filter_both {g l : List Key} (h : Sub g l) (p : Key → Bool) :
    Sub (g.filter p) (l.filter p) := by
  have e : l.filter p = (g.filter p).filter (fun a => decide (a ∈ l)) := by
    refine (congrArg (List.filter p) h).trans ?_
    rw [List.filter_filter, List.filter_filter]
    exact List.filter_congr fun _ _ => Bool.and_comm _ _
  rw [e]; exact Sub.of_filter _ _

theorem Sub.del {g l : List Key} (h : Sub g l) (k : Key) : Sub (dropKey g k) (dropKey l k) :=
  h.filter_both _

theorem Sub.use {g l : List Key} (h : Sub g l) (k : Key) :
    Sub (dropKey g k ++ [k]) (dropKey l k ++ [k]) := by
  have e : dropKey l k ++ [k] = (dropKey g k ++ [k]).filter (fun x => decide (x ∈ l) || decide (x = k)) := by
    rw [List.filter_append, List.filter_cons_of_pos (by simp), List.filter_nil]
    refine congrArg (· ++ [k]) ((h.del k).trans (List.filter_congr fun x hx => ?_))
    have : x ≠ k := (mem_dropKey.mp hx).2
    simp [mem_dropKey, this]
  rw [e]; exact Sub.of_filter _ _

theorem Sub.firstIn {g l : List Key} (h : Sub g l) : firstIn g l = l.head? := by
  unfold Spec.firstIn; rw [← List.head?_filter, ← h]

theorem Sub.lastIn {g l : List Key} (h : Sub g l) : lastIn g l = l.getLast? := by
  unfold Spec.lastIn; rw [← h]

theorem Sub.refl (l : List Key) : Sub l l :=
  (List.filter_eq_self.mpr fun _ h => decide_eq_true h).symm

theorem Sub.trans {g l l' : List Key} (h : Sub g l) (h' : Sub l l') : Sub g l' :=
  (congrArg (Sub g) h').mpr (h.filter _)

theorem Sub.subset {g l : List Key} (h : Sub g l) {x : Key} (hx : x ∈ l) : x ∈ g := by
  rw [h] at hx; exact (List.mem_filter.mp hx).1

/-- every eviction is a `delE` (`exists_tail_eq_delE`, `Rec.prune_eq_delE`) -/
theorem Sub.of_delE (l : List Entry) (k : Key) : Sub (keys l) (keys (delE l k)) :=
  (keys_delE l k).symm ▸ Sub.of_filter _ _

/-- the callers know the new key fresh for the ghost `g`; `h` brings that down to `l` -/
theorem Sub.keys_snoc_fresh {g : List Key} {l : List Entry} (h : Sub g (keys l)) {x : Entry} (hk : x.key ∉ g) :
    keys (l ++ [x]) = dropKey (keys l) x.key ++ [x.key] :=
  (keys_append ..).trans (congrArg (· ++ [x.key]) (dropKey_of_not_mem fun hm => hk (h.subset hm)).symm)

theorem Sub.useStep {g l : List Key} (h : Sub g l) (x : Atom) : Sub (useStep g x) (useStep l x) := by
  unfold Spec.useStep
  split
  · exact h.use _
  · exact h.use _
  · exact h.del _
  · exact .refl _
  · exact h

theorem Sub.bornStep {g l : List Key} (h : Sub g l) (rk : List Key) (x : Atom) :
    Sub (bornStep rk g x) (bornStep rk l x) := by
  unfold Spec.bornStep
  split
  · split
    · exact h
    · exact h.use _
  · exact h.del _
  · exact .refl _
  · exact h

end Rec
end Verif
