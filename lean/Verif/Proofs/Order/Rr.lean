import Verif.Proofs.Order.Ghost
import Verif.Proofs.Refine.Rr
/-!
# C15 (rr_cache): the victim is the resident entry in the drawn slot; slots ↔ residents is a bijection
-/
namespace Verif
open Verif.Spec

namespace Rr

/-- Along every run from the empty cache, whatever the random source draws below `cap`: `Inv`. -/
theorem run_inv {cap : Nat} (hcap : 0 < cap) {rnd : List Nat} (hr : ∀ r ∈ rnd, r < cap)
    {tr : STrace RrState} {s : RrState} (hrun : CRun Rr.core (Rr.init cap rnd) tr s) :
    Inv cap s :=
  (Rr.refines cap).crun_inv hrun (inv_init hcap rnd hr)

theorem full_perm {cap : Nat} {s : RrState} (h : Inv cap s) (hfull : s.ents.length ≥ s.cap) :
    List.Perm (slots s.ents) (List.range cap) := by
  have hp := h.perm
  rwa [(drawn h hfull).1, List.append_nil] at hp

theorem ins_full {s s' : RrState} {now : Time} {k : Key} {v : Val} {al : Allow} {d : Time} {e : Entry}
    (hstep : CStep core s now (.ins k v al d true) s') (hg : getE s.ents k = none)
    (hf : s.ents.length ≥ s.cap) (hat : atSlot s.ents (s.rnd.headD 0) = some e) :
    s' = { s with ents := delE s.ents e.key ++ [{ key := k, val := v, slot := s.rnd.headD 0 }],
                  rnd := s.rnd.tail } := by
  obtain ⟨-, rfl⟩ := hstep.ins_accepted fun _ => insert1_none hg v al
  rw [if_pos hf, prune_some hat]
  rfl

/-- which calls consume an outcome of the random source -/
theorem insert1_rnd (s : RrState) (k : Key) (v : Val) (a : Allow) :
    (insert1 s k v a).1.rnd =
      if (insert1 s k v a).2 = true ∧ k ∉ keys s.ents ∧ s.cap ≤ s.ents.length then s.rnd.tail
      else s.rnd := by
  unfold insert1
  cases hg : getE s.ents k with
  | some en =>
    have hres : k ∈ keys s.ents := mem_keys_of_getE hg
    by_cases hu : a.upd = true <;> simp [hu, hres]
  | none =>
    have hnres : k ∉ keys s.ents := getE_eq_none_iff.1 hg
    by_cases hin : a.ins = true
    · by_cases hfull : s.cap ≤ s.ents.length
      · simp only [hin, if_true, ge_iff_le, hfull, hnres, not_false_eq_true, and_self, prune]
        split <;> rfl
      · simp [hin, hfull]
    · simp [hin]

end Rr

/-- **C15 (legality).** When an accepted insert of a new key finds the cache full it consumes one
outcome `r` of the random source (`r < cap`) and removes exactly the resident entry stored in slot
`r` — a prior resident, never the key being inserted. -/
theorem C15_rr_victim (cap : Nat) (hcap : 0 < cap) (rnd : List Nat) (hr : ∀ r ∈ rnd, r < cap)
    {tr : STrace RrState} {s s' : RrState} {now : Time} {k : Key} {v : Val} {al : Allow} {d : Time}
    (hrun : CRun Rr.core (Rr.init cap rnd) tr s)
    (hstep : CStep Rr.core s now (.ins k v al d true) s')
    (hnew : k ∉ keys s.ents) (hfull : cap ≤ s.ents.length) :
    ∃ e, Rr.atSlot s.ents (s.rnd.headD 0) = some e ∧ Evicts (keys s.ents) (keys s'.ents) k e.key ∧
      s'.rnd = s.rnd.tail ∧ s.rnd.headD 0 < cap := by
  have h := Rr.run_inv hcap hr hrun
  have hfull' : s.ents.length ≥ s.cap := by rw [h.cap_eq]; exact hfull
  obtain ⟨-, hlt, e, hat, hel, -⟩ := Rr.drawn h hfull'
  obtain rfl := Rr.ins_full hstep (getE_eq_none_iff.mpr hnew) hfull' hat
  exact ⟨e, hat, evicts_delE_snoc { key := k, val := v, slot := s.rnd.headD 0 } (mem_keys_of_mem hel) hnew,
    rfl, hlt⟩

/-- **C15 (spread).** In a full cache, slot ↦ resident is a bijection between `[0, cap)` and the resident
entries; hence every resident is named by exactly one outcome `r < cap`.  The reading (not a statement here): a
uniform outcome of the random source is a uniform victim; no resident is immune, none forced. -/
theorem C15_rr_bijection (cap : Nat) (hcap : 0 < cap) (rnd : List Nat) (hr : ∀ r ∈ rnd, r < cap)
    {tr : STrace RrState} {s : RrState}
    (hrun : CRun Rr.core (Rr.init cap rnd) tr s) (hfull : cap ≤ s.ents.length) :
    (∀ r, r < cap → ∃ e, e ∈ s.ents ∧ e.slot = r ∧ ∀ e' ∈ s.ents, e'.slot = r → e' = e) ∧
    (∀ e ∈ s.ents, e.slot < cap) := by
  have h := Rr.run_inv hcap hr hrun
  have hperm := Rr.full_perm h (h.cap_eq.symm ▸ hfull)
  have hnd : (s.ents.map (·.slot)).Nodup := hperm.nodup_iff.mpr List.nodup_range
  refine ⟨?_, ?_⟩
  · intro r hlt
    have hmem : r ∈ Rr.slots s.ents := hperm.mem_iff.mpr (List.mem_range.mpr hlt)
    obtain ⟨e, _, hel, hes⟩ := Rr.atSlot_some_of_mem hmem
    refine ⟨e, hel, hes, ?_⟩
    intro e' he' hs'
    exact eq_of_nodup_map (·.slot) hnd he' hel (hs'.trans hes.symm)
  · intro e he
    exact List.mem_range.mp (hperm.mem_iff.mp (List.mem_map_of_mem (f := (·.slot)) he))

end Verif
