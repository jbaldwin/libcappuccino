import Verif.Concrete.UtMap
import Verif.Model.Ttl
import Verif.Proofs.ModelLemmas
import Verif.Proofs.L2.Lift
import Verif.Proofs.L2.Mem
/-!
# L2 `ut_map` / `ut_set`: no undefined behaviour on any history, refinement of the L1 model

Of `Slot.lean` (see its header) this file keeps, for each explicit state (`erased`, `updated`, `pushed`), `Good` of it
and what `abs` makes of it (`Good.erase`, `abs_erased`), and the `sim_*` lemmas.  The model writes `do_insert`,
`do_update` and `do_erase` out inside the primitives, so there are no `do*_eq` lemmas; and there are no slots, so
`Part` and `KIx` of `Mem.lean` are not used.  Instead, map nodes and ttl nodes come in pairs that hold iterators to
each other (`Pair`); identities are distinct on either side, so a pair is known by its map node as well as by its
ttl node.
-/
namespace Verif.L2.UtMap
open Verif

/-- the L1 state: the ttl list in order, each node with key and value of its map node -/
def abs (s : UState) : UtMapState :=
  { ttl := s.ttl,
    tq := s.tq.map (fun u =>
      match s.mapn.find? (fun m => m.id == u.mapIt) with
      | some m => { key := m.key, val := m.val, dl := u.expire }
      | none => { key := 0, val := 0, dl := u.expire }) }

def entryOf (ms : List MNode) (u : UNode) : Entry :=
  match ms.find? (fun m => m.id == u.mapIt) with
  | some m => { key := m.key, val := m.val, dl := u.expire }
  | none => { key := 0, val := 0, dl := u.expire }

theorem abs_eq (s : UState) : abs s = { ttl := s.ttl, tq := s.tq.map (entryOf s.mapn) } := rfl

theorem entryOf_dl (ms : List MNode) (u : UNode) : (entryOf ms u).dl = u.expire := by
  unfold entryOf; split <;> rfl

/-! ## the invariant -/

/-- map node `m` and ttl node `u` of `s` hold iterators to each other -/
structure Pair (s : UState) (m : MNode) (u : UNode) : Prop where
  hm : m ∈ s.mapn
  hu : u ∈ s.tq
  ttl : m.ttlIt = u.id
  map : u.mapIt = m.id

structure Good (s : UState) : Prop where
  ub : s.ub = false
  idM : s.mapn.Pairwise (fun a b => a.id ≠ b.id)
  keyM : s.mapn.Pairwise (fun a b => a.key ≠ b.key)
  idU : s.tq.Pairwise (fun a b => a.id ≠ b.id)
  ltM : ∀ m ∈ s.mapn, m.id < s.nextM
  ltU : ∀ u ∈ s.tq, u.id < s.nextU
  fwd : ∀ m ∈ s.mapn, ∃ u, Pair s m u
  bwd : ∀ u ∈ s.tq, ∃ m, Pair s m u
  len : s.mapn.length = s.tq.length

def Rel (s : UState) (t : UtMapState) : Prop := Good s ∧ abs s = t

/-- the initial state, and the one `clear()` leaves -/
theorem good_nil {s : UState} (hub : s.ub = false) (hm : s.mapn = []) (hu : s.tq = []) : Good s where
  ub := hub
  idM := hm ▸ List.Pairwise.nil
  keyM := hm ▸ List.Pairwise.nil
  idU := hu ▸ List.Pairwise.nil
  ltM := fun _ h => (List.not_mem_nil (hm ▸ h)).elim
  ltU := fun _ h => (List.not_mem_nil (hu ▸ h)).elim
  fwd := fun _ h => (List.not_mem_nil (hm ▸ h)).elim
  bwd := fun _ h => (List.not_mem_nil (hu ▸ h)).elim
  len := by rw [hm, hu]; rfl

variable {s : UState} {m : MNode} {u : UNode}

theorem Good.not_ub (h : Good s) : ¬ s.ub = true := ne_true_of_eq_false h.ub

theorem Good.pair_iff (h : Good s) {x : MNode} {y : UNode} (q : Pair s x y) (p : Pair s m u) :
    x.id = m.id ↔ y.id = u.id :=
  ⟨fun e => q.ttl.symm.trans ((congrArg MNode.ttlIt (pairwise_inj h.idM q.hm p.hm e)).trans p.ttl),
    fun e => q.map.symm.trans ((congrArg UNode.mapIt (pairwise_inj h.idU q.hu p.hu e)).trans p.map)⟩

theorem Good.pair_key_iff (h : Good s) {x : MNode} {y : UNode} (q : Pair s x y) (p : Pair s m u) :
    x.key = m.key ↔ y.id = u.id :=
  ⟨fun e => (h.pair_iff q p).mp (congrArg MNode.id (pairwise_inj h.keyM q.hm p.hm e)),
    fun e => congrArg MNode.key (pairwise_inj h.idM q.hm p.hm ((h.pair_iff q p).mpr e))⟩

/-! ## the abstraction of a good state -/

theorem entryOf_pair (h : Good s) (p : Pair s m u) :
    entryOf s.mapn u = { key := m.key, val := m.val, dl := u.expire } := by
  unfold entryOf
  rw [p.map, find?_label h.idM p.hm]

theorem getE_abs_none (h : Good s) {k : Key} (hf : findNode s k = none) : getE (abs s).tq k = none := by
  rw [abs_eq]
  refine List.find?_eq_none.mpr fun e he => ?_
  obtain ⟨x, hx, rfl⟩ := List.mem_map.mp he
  obtain ⟨m, q⟩ := h.bwd x hx
  rw [entryOf_pair h q]
  exact fun c => find?_key_none hf m q.hm (of_decide_eq_true c)

theorem getE_abs_some (h : Good s) (p : Pair s m u) :
    getE (abs s).tq m.key = some { key := m.key, val := m.val, dl := u.expire } := by
  rw [abs_eq, getE, List.find?_map, find?_of_unique p.hu, Option.map_some, entryOf_pair h p]
  · simp [entryOf_pair h p]
  · intro x hx c
    obtain ⟨m', q⟩ := h.bwd x hx
    rw [Function.comp, entryOf_pair h q] at c
    exact pairwise_inj h.idU hx p.hu ((h.pair_key_iff q p).mp (of_decide_eq_true c))

theorem delE_abs (h : Good s) (p : Pair s m u) :
    delE (abs s).tq m.key = (s.tq.filter (fun x => !(x.id == u.id))).map (entryOf s.mapn) := by
  show delE (s.tq.map (entryOf s.mapn)) m.key = _
  rw [delE, List.filter_map]
  refine congrArg _ (List.filter_congr fun x hx => ?_)
  obtain ⟨m', q⟩ := h.bwd x hx
  rw [Function.comp_apply, entryOf_pair h q]
  exact congrArg not (decide_eq_decide.mpr (h.pair_key_iff q p))

/-! ## removing a pair (`do_erase`, a round of `do_prune`) -/

def erased (s : UState) (mi ui : Nat) : UState :=
  { s with mapn := s.mapn.filter (fun m => !(m.id == mi)), tq := s.tq.filter (fun x => !(x.id == ui)) }

theorem Pair.erase (h : Good s) (p : Pair s m u) {x : MNode} {y : UNode} (q : Pair s x y) (hne : x.id ≠ m.id) :
    Pair (erased s m.id u.id) x y :=
  ⟨mem_filter_ne.mpr ⟨q.hm, hne⟩, mem_filter_ne.mpr ⟨q.hu, fun e => hne ((h.pair_iff q p).mpr e)⟩, q.ttl, q.map⟩

theorem Good.erase (h : Good s) (p : Pair s m u) : Good (erased s m.id u.id) where
  ub := h.ub
  idM := h.idM.filter _
  keyM := h.keyM.filter _
  idU := h.idU.filter _
  ltM := fun x hx => h.ltM x (List.mem_filter.mp hx).1
  ltU := fun x hx => h.ltU x (List.mem_filter.mp hx).1
  fwd := fun x hx => by
    obtain ⟨hx1, hx2⟩ := mem_filter_ne.mp hx
    obtain ⟨y, q⟩ := h.fwd x hx1
    exact ⟨y, p.erase h q hx2⟩
  bwd := fun y hy => by
    obtain ⟨hy1, hy2⟩ := mem_filter_ne.mp hy
    obtain ⟨x, q⟩ := h.bwd y hy1
    exact ⟨x, p.erase h q fun e => hy2 ((h.pair_iff q p).mp e)⟩
  len := Nat.add_right_cancel
    ((Cnt.length_filter_ne h.idM p.hm).trans (h.len.trans (Cnt.length_filter_ne h.idU p.hu).symm))

theorem abs_erased (h : Good s) (p : Pair s m u) :
    abs (erased s m.id u.id) = { ttl := s.ttl, tq := delE (abs s).tq m.key } := by
  rw [delE_abs h p, abs_eq]
  refine congrArg (UtMapState.mk s.ttl) (List.map_congr_left fun x hx => ?_)
  obtain ⟨hx1, hx2⟩ := mem_filter_ne.mp hx
  obtain ⟨m', q⟩ := h.bwd x hx1
  rw [entryOf_pair h q, entryOf_pair (h.erase p) (p.erase h q fun e => hx2 ((h.pair_iff q p).mp e))]

/-! ## `do_prune` -/

/-- in place of `unfold pruneLoop`, which would have Lean derive the equation lemmas of the recursion -/
theorem pruneLoop_cons (now : Time) (u : UNode) (rest : List UNode) (s : UState) (n : Nat) :
    pruneLoop now (u :: rest) s n =
      if u.expire ≤ now then
        if s.mapn.any (fun m => m.id == u.mapIt) then pruneLoop now rest (erased s u.mapIt u.id) (n + 1)
        else (fail s, n)
      else (s, n) := rfl

/-- `l` is the ttl list of the state the loop is in: every round takes its head out -/
theorem pruneLoop_spec (now : Time) : ∀ (l : List UNode) (s : UState) (n : Nat), Good s → s.tq = l →
    (pruneLoop now l s n).2 = n + Verif.UtMap.purged (abs s).tq now ∧
      Rel (pruneLoop now l s n).1 { ttl := s.ttl, tq := Verif.UtMap.purge (abs s).tq now } := by
  intro l
  induction l with
  | nil =>
    intro s n h e
    have habs : abs s = { ttl := s.ttl, tq := [] } := by rw [abs_eq, e]; rfl
    rw [habs]
    exact ⟨rfl, h, habs⟩
  | cons u rest ih =>
    intro s n h e
    obtain ⟨m, p⟩ := h.bwd u (e ▸ List.mem_cons_self ..)
    have habs : (abs s).tq = entryOf s.mapn u :: rest.map (entryOf s.mapn) := by rw [abs_eq, e]; rfl
    rw [pruneLoop_cons]
    by_cases hexp : u.expire ≤ now
    · have hdl : (entryOf s.mapn u).dl ≤ now := by rw [entryOf_dl]; exact hexp
      have htq : (erased s m.id u.id).tq = rest := by
        show s.tq.filter _ = rest
        rw [e, filter_label_head (e ▸ h.idU)]
      have habs' : (abs (erased s m.id u.id)).tq = rest.map (entryOf s.mapn) := by
        rw [abs_erased h p, delE_abs h p]
        exact congrArg (List.map (entryOf s.mapn)) htq
      obtain ⟨g1, g2, g3⟩ := ih (erased s m.id u.id) (n + 1) (h.erase p) htq
      rw [habs'] at g1 g3
      rw [if_pos hexp, p.map, if_pos (any_label MNode.id p.hm), habs, Verif.UtMap.purge_cons_le hdl, Verif.UtMap.purged_cons_le hdl]
      exact ⟨g1.trans (show n + 1 + _ = n + (_ + 1) by rw [Nat.add_right_comm, Nat.add_assoc]), g2, g3⟩
    · have hdl : ¬ (entryOf s.mapn u).dl ≤ now := by rw [entryOf_dl]; exact hexp
      rw [if_neg hexp, habs, Verif.UtMap.purge_cons_gt hdl, Verif.UtMap.purged_cons_gt hdl, ← habs]
      exact ⟨rfl, h, rfl⟩

theorem prune_spec (h : Good s) (now : Time) :
    (prune s now).2 = Verif.UtMap.purged (abs s).tq now ∧
      Rel (prune s now).1 { ttl := s.ttl, tq := Verif.UtMap.purge (abs s).tq now } := by
  unfold prune
  rw [if_neg h.not_ub, ← Nat.zero_add (Verif.UtMap.purged (abs s).tq now)]
  exact pruneLoop_spec now s.tq s 0 h rfl

/-! ## rewriting a pair (`do_update`) -/

def setVal (m : MNode) (v : Val) (x : MNode) : MNode := if x.id == m.id then { x with val := v } else x

theorem setVal_id (m : MNode) (v : Val) (x : MNode) : (setVal m v x).id = x.id := by
  unfold setVal; split <;> rfl
theorem setVal_key (m : MNode) (v : Val) (x : MNode) : (setVal m v x).key = x.key := by
  unfold setVal; split <;> rfl
theorem setVal_ttlIt (m : MNode) (v : Val) (x : MNode) : (setVal m v x).ttlIt = x.ttlIt := by
  unfold setVal; split <;> rfl
theorem setVal_ne {m : MNode} (v : Val) {x : MNode} (h : x.id ≠ m.id) : setVal m v x = x := by
  unfold setVal; simp [h]
theorem setVal_self (m : MNode) (v : Val) : setVal m v m = { m with val := v } :=
  if_pos (beq_iff_eq.mpr rfl)

def updated (s : UState) (m : MNode) (u : UNode) (v : Val) (d : Time) : UState :=
  { s with mapn := s.mapn.map (setVal m v),
           tq := s.tq.filter (fun x => !(x.id == u.id)) ++ [{ u with expire := d }] }

theorem Pair.upd_self (p : Pair s m u) (v : Val) (d : Time) :
    Pair (updated s m u v d) (setVal m v m) { u with expire := d } :=
  ⟨List.mem_map_of_mem p.hm, List.mem_append_right _ (List.mem_singleton_self _),
    (setVal_ttlIt m v m).trans p.ttl, p.map.trans (setVal_id m v m).symm⟩

theorem Pair.upd_other (h : Good s) (p : Pair s m u) (v : Val) (d : Time) {x : MNode} {y : UNode}
    (q : Pair s x y) (hne : x.id ≠ m.id) : Pair (updated s m u v d) x y :=
  ⟨setVal_ne v hne ▸ List.mem_map_of_mem (f := setVal m v) q.hm,
    List.mem_append_left _ (mem_filter_ne.mpr ⟨q.hu, fun e => hne ((h.pair_iff q p).mpr e)⟩), q.ttl, q.map⟩

theorem Good.update (h : Good s) (p : Pair s m u) (v : Val) (d : Time) : Good (updated s m u v d) where
  ub := h.ub
  idM := List.pairwise_map.mpr (h.idM.imp fun hne => by rwa [setVal_id, setVal_id])
  keyM := List.pairwise_map.mpr (h.keyM.imp fun hne => by rwa [setVal_key, setVal_key])
  idU := pairwise_snoc (h.idU.filter _) fun y hy => (mem_filter_ne.mp hy).2
  ltM := fun x hx => by
    obtain ⟨x0, hx0, rfl⟩ := List.mem_map.mp hx
    rw [setVal_id]; exact h.ltM x0 hx0
  ltU := List.forall_mem_append.mpr ⟨fun y hy => h.ltU y (List.mem_filter.mp hy).1,
    List.forall_mem_singleton.mpr (h.ltU u p.hu)⟩
  fwd := fun x hx => by
    obtain ⟨x0, hx0, rfl⟩ := List.mem_map.mp hx
    obtain ⟨y, q⟩ := h.fwd x0 hx0
    by_cases e : x0.id = m.id
    · rw [pairwise_inj h.idM hx0 p.hm e]
      exact ⟨_, p.upd_self v d⟩
    · rw [setVal_ne v e]
      exact ⟨y, p.upd_other h v d q e⟩
  bwd := List.forall_mem_append.mpr
    ⟨fun y hy => by
      obtain ⟨hy1, hy2⟩ := mem_filter_ne.mp hy
      obtain ⟨x, q⟩ := h.bwd y hy1
      exact ⟨x, p.upd_other h v d q fun e => hy2 ((h.pair_iff q p).mp e)⟩,
    List.forall_mem_singleton.mpr ⟨_, p.upd_self v d⟩⟩
  len := by
    rw [updated, List.length_map, List.length_append, h.len, ← Cnt.length_filter_ne h.idU p.hu]; rfl

theorem abs_updated (h : Good s) (p : Pair s m u) (v : Val) (d : Time) :
    abs (updated s m u v d) =
      { ttl := s.ttl, tq := delE (abs s).tq m.key ++ [{ key := m.key, val := v, dl := d }] } := by
  have hg := h.update p v d
  rw [delE_abs h p, abs_eq]
  refine congrArg (UtMapState.mk s.ttl) ?_
  show (s.tq.filter _ ++ _).map (entryOf (updated s m u v d).mapn) = _
  rw [List.map_append, List.map_singleton, entryOf_pair hg (p.upd_self v d), setVal_self]
  refine congrArg (· ++ _) (List.map_congr_left fun x hx => ?_)
  obtain ⟨hx1, hx2⟩ := mem_filter_ne.mp hx
  obtain ⟨m', q⟩ := h.bwd x hx1
  rw [entryOf_pair h q, entryOf_pair hg (p.upd_other h v d q fun e => hx2 ((h.pair_iff q p).mp e))]

/-! ## a new pair (`do_insert`) -/

def mkM (s : UState) (k : Key) (v : Val) : MNode := ⟨s.nextM, k, v, s.nextU⟩
def mkU (s : UState) (d : Time) : UNode := ⟨s.nextU, d, s.nextM⟩

def pushed (s : UState) (k : Key) (v : Val) (d : Time) : UState :=
  { s with mapn := s.mapn ++ [mkM s k v], tq := s.tq ++ [mkU s d],
           nextM := s.nextM + 1, nextU := s.nextU + 1 }

theorem Pair.push_new (s : UState) (k : Key) (v : Val) (d : Time) : Pair (pushed s k v d) (mkM s k v) (mkU s d) :=
  ⟨List.mem_append_right _ (List.mem_singleton_self _), List.mem_append_right _ (List.mem_singleton_self _),
    rfl, rfl⟩

theorem Pair.push_old (p : Pair s m u) (k : Key) (v : Val) (d : Time) : Pair (pushed s k v d) m u :=
  ⟨List.mem_append_left _ p.hm, List.mem_append_left _ p.hu, p.ttl, p.map⟩

theorem Good.push (h : Good s) {k : Key} (hk : ∀ m ∈ s.mapn, m.key ≠ k) (v : Val) (d : Time) :
    Good (pushed s k v d) where
  ub := h.ub
  idM := pairwise_snoc h.idM fun y hy => Nat.ne_of_lt (h.ltM y hy)
  keyM := pairwise_snoc h.keyM hk
  idU := pairwise_snoc h.idU fun y hy => Nat.ne_of_lt (h.ltU y hy)
  ltM := List.forall_mem_append.mpr ⟨fun x hx => Nat.lt_succ_of_lt (h.ltM x hx),
    List.forall_mem_singleton.mpr (Nat.lt_succ_self _)⟩
  ltU := List.forall_mem_append.mpr ⟨fun x hx => Nat.lt_succ_of_lt (h.ltU x hx),
    List.forall_mem_singleton.mpr (Nat.lt_succ_self _)⟩
  fwd := List.forall_mem_append.mpr ⟨fun x hx => (h.fwd x hx).imp fun _ q => q.push_old k v d,
    List.forall_mem_singleton.mpr ⟨_, Pair.push_new s k v d⟩⟩
  bwd := List.forall_mem_append.mpr ⟨fun y hy => (h.bwd y hy).imp fun _ q => q.push_old k v d,
    List.forall_mem_singleton.mpr ⟨_, Pair.push_new s k v d⟩⟩
  len := by rw [pushed, List.length_append, List.length_append, h.len]; rfl

theorem abs_pushed (h : Good s) {k : Key} (hk : ∀ m ∈ s.mapn, m.key ≠ k) (v : Val) (d : Time) :
    abs (pushed s k v d) = { ttl := s.ttl, tq := (abs s).tq ++ [{ key := k, val := v, dl := d }] } := by
  have hg := h.push hk v d
  rw [abs_eq, abs_eq]
  refine congrArg (UtMapState.mk s.ttl) ?_
  show (s.tq ++ _).map (entryOf (pushed s k v d).mapn) = _
  rw [List.map_append, List.map_singleton, entryOf_pair hg (Pair.push_new s k v d)]
  refine congrArg (· ++ _) (List.map_congr_left fun x hx => ?_)
  obtain ⟨m', q⟩ := h.bwd x hx
  rw [entryOf_pair h q, entryOf_pair hg (q.push_old k v d)]

/-! ## one-step simulation of the single-key primitives

Both sides branch on the lookup of the key (`getE_abs_none`, `getE_abs_some`). -/

theorem sim_insert1 (h : Good s) (now : Time) (k : Key) (v : Val) (a : Allow) :
    (insert1 s now k v a).2 = (Verif.UtMap.insert1 (abs s) now k v a).2 ∧
      Rel (insert1 s now k v a).1 (Verif.UtMap.insert1 (abs s) now k v a).1 := by
  unfold insert1 Verif.UtMap.insert1
  rw [if_neg h.not_ub]
  cases hf : findNode s k with
  | none =>
    rw [getE_abs_none h hf]
    cases a.ins with
    | false => exact ⟨rfl, h, rfl⟩
    | true => exact ⟨rfl, h.push (find?_key_none hf) v _, abs_pushed h (find?_key_none hf) v _⟩
  | some m =>
    obtain ⟨hm, rfl⟩ := find?_key_some hf
    obtain ⟨u, p⟩ := h.fwd m hm
    rw [getE_abs_some h p]
    cases a.upd with
    | false => exact ⟨rfl, h, rfl⟩
    | true =>
      simp only [if_true]
      rw [p.ttl, find?_label h.idU p.hu]
      exact ⟨rfl, h.update p v _, abs_updated h p v _⟩

theorem sim_find1 (h : Good s) (k : Key) :
    (find1 s k).2 = (Verif.UtMap.find1 (abs s) k).2 ∧ Rel (find1 s k).1 (Verif.UtMap.find1 (abs s) k).1 := by
  unfold find1 Verif.UtMap.find1
  rw [if_neg h.not_ub]
  cases hf : findNode s k with
  | none =>
    rw [getE_abs_none h hf]
    exact ⟨rfl, h, rfl⟩
  | some m =>
    obtain ⟨hm, rfl⟩ := find?_key_some hf
    obtain ⟨u, p⟩ := h.fwd m hm
    rw [getE_abs_some h p]
    exact ⟨rfl, h, rfl⟩

theorem sim_erase1 (h : Good s) (k : Key) :
    (erase1 s k).2 = (Verif.UtMap.erase1 (abs s) k).2 ∧ Rel (erase1 s k).1 (Verif.UtMap.erase1 (abs s) k).1 := by
  unfold erase1 Verif.UtMap.erase1
  rw [if_neg h.not_ub]
  cases hf : findNode s k with
  | none =>
    rw [getE_abs_none h hf]
    exact ⟨rfl, h, rfl⟩
  | some m =>
    obtain ⟨hm, rfl⟩ := find?_key_some hf
    obtain ⟨u, p⟩ := h.fwd m hm
    simp only []
    rw [getE_abs_some h p, p.ttl, if_pos (any_label UNode.id p.hu)]
    exact ⟨rfl, h.erase p, abs_erased h p⟩

/-! ## every history -/

theorem good_init (ttlMs : Nat) : Good (init ttlMs) := good_nil rfl rfl rfl

theorem sim : SimC core Verif.UtMap.core Rel where
  pre := by
    rintro s _ now ⟨h, rfl⟩
    exact (prune_spec h now).2
  insert1 := by
    rintro s _ now k v a ttl ⟨h, rfl⟩
    exact sim_insert1 h now k v a
  find1 := by
    rintro s _ now k peek ⟨h, rfl⟩
    exact sim_find1 h k
  erase1 := by
    rintro s _ k ⟨h, rfl⟩
    exact sim_erase1 h k
  hasClear := rfl
  clear := by
    rintro _ s _ ⟨h, rfl⟩
    show Rel (if s.ub then s else _) _
    rw [if_neg h.not_ub]
    exact ⟨good_nil h.ub rfl rfl, rfl⟩
  clean := by
    rintro s _ now ⟨h, rfl⟩
    exact prune_spec h now
  age _ _ _ hr := ⟨rfl, hr⟩
  updateTtl _ _ _ hr := hr
  size := by
    rintro s _ ⟨h, rfl⟩
    exact h.len.trans (List.length_map _).symm
  capacity _ _ _ := rfl

theorem run_good (h : Good s) (ops : List (Time × Op)) :
    Good (core.run s ops).1 ∧ (core.run s ops).2 = (Verif.UtMap.core.run (abs s) ops).2 ∧
      abs (core.run s ops).1 = (Verif.UtMap.core.run (abs s) ops).1 :=
  sim.toSim2.run_abs h ops

/-- **C08 (model part), ut_map and ut_set**: for every TTL and every history the node-level model never
erases or dereferences through an iterator whose node is gone. -/
theorem no_ub (ttlMs : Nat) (ops : List (Time × Op)) : (core.run (init ttlMs) ops).1.ub = false :=
  (run_good (good_init ttlMs) ops).1.ub

/-- same results as the L1 model on every history; the L2 state abstracts to the L1 state -/
theorem refines_l1 (ttlMs : Nat) (ops : List (Time × Op)) :
    (core.run (init ttlMs) ops).2 = (Verif.UtMap.core.run (Verif.UtMap.init ttlMs) ops).2 ∧
    abs (core.run (init ttlMs) ops).1 = (Verif.UtMap.core.run (Verif.UtMap.init ttlMs) ops).1 :=
  (run_good (good_init ttlMs) ops).2

end Verif.L2.UtMap
