import Verif.Concrete.Slot
import Verif.Model.Lru
import Verif.Proofs.ModelLemmas
import Verif.Proofs.L2.Lift
import Verif.Proofs.L2.Mem
/-!
# L2 `lru_cache` / `mru_cache`: no undefined behaviour on any history, refinement of the L1 model

`Slot`, `Fifo`, `Ttl` and `CntGood` + `Cnt` are built alike; `Rr` and `UtMap` keep the three facts below without
`Part` / `KIx` of `Mem.lean` (see their headers).  From a state with the invariant `Good` on, each helper of the
C++ (`do_access`, `do_erase`, `do_prune`, `do_insert`) gets three facts: the state it returns, written out
(`doErase_eq`); `Good` of that state (`Good.erase`); and the L1 operation that `abs` makes of it (`abs_erased`).
The single-key primitives are then a case distinction over the hash lookup (`sim_insert1`, `sim_find1`,
`sim_erase1`), and `Lift.lean` carries the one-step simulation `sim` to every history.
-/
namespace Verif.L2.Slot
open Verif

/-- the nodes before `m_lru_end` -/
def usedPrefix (s : LState) : List Nat :=
  match s.lruEnd with
  | none => s.lruList
  | some e => s.lruList.takeWhile (fun x => !(x == e))

def entryOf (s : LState) (slot : Nat) : Entry :=
  { key := ((s.keyed.find? (fun n => n.slot == slot)).map (·.key)).getD 0, val := (s.slots.getD slot default).val }

/-- the L1 state: lru keeps most-recent-first (L1: least recent first, so reversed); mru keeps oldest first -/
def abs (s : LState) : RecState :=
  { cap := s.slots.length,
    ents := match s.fl with
      | .lru => (usedPrefix s).reverse.map (entryOf s)
      | .mru => (usedPrefix s).map (entryOf s) }

def l1core : Flavour → Core RecState
  | .lru => Lru.core
  | .mru => Mru.core

def vicOf : Flavour → Rec.Victim
  | .lru => .oldest
  | .mru => .newest

theorem l1core_eq (fl : Flavour) : l1core fl = Rec.core (vicOf fl) := by
  cases fl <;> rfl

/-- `u` is the in-use prefix of `m_lru_list`, `f` the free rest.  The fields are those of `Part` (the list and
`m_lru_end`) and `KIx` (the hash index) of `Mem.lean`, written out, and the back pointers `its`.  Proofs read the fields
by name; `Good.part` and `Good.kix` pack them, and `Good.of` makes a `Good` of the packs. -/
structure Good (cap : Nat) (s : LState) (u f : List Nat) : Prop where
  ub : s.ub = false
  cpos : 0 < cap
  slen : s.slots.length = cap
  list : s.lruList = u ++ f
  nodup : (u ++ f).Nodup
  len : u.length + f.length = cap
  lt : ∀ x ∈ u ++ f, x < cap
  lend : s.lruEnd = f.head?
  used : s.used = u.length
  ids : s.keyed.Pairwise (fun a b => a.id ≠ b.id)
  idlt : ∀ n ∈ s.keyed, n.id < s.nextNode
  kkeys : s.keyed.Pairwise (fun a b => a.key ≠ b.key)
  kslots : s.keyed.Pairwise (fun a b => a.slot ≠ b.slot)
  slot_mem : ∀ n ∈ s.keyed, n.slot ∈ u
  mem_slot : ∀ x ∈ u, ∃ n ∈ s.keyed, n.slot = x
  its : ∀ n ∈ s.keyed, (s.slots.getD n.slot default).lruIt = n.slot ∧
    (s.slots.getD n.slot default).keyedIt = n.id

def Rel (fl : Flavour) (cap : Nat) (s : LState) (t : RecState) : Prop :=
  (s.fl = fl ∧ ∃ u f, Good cap s u f) ∧ abs s = t

section
variable {cap : Nat} {s : LState} {u f : List Nat}

theorem Good.part (h : Good cap s u f) : Part cap s.lruList s.lruEnd s.used u f :=
  ⟨h.list, h.nodup, h.len, h.lt, h.lend, h.used⟩

theorem Good.kix (h : Good cap s u f) : KIx s.keyed s.nextNode u :=
  ⟨⟨h.ids, h.idlt, h.kslots, h.slot_mem, h.mem_slot⟩, h.kkeys⟩

theorem Good.of (hub : s.ub = false) (hc : 0 < cap) (hs : s.slots.length = cap)
    (p : Part cap s.lruList s.lruEnd s.used u f) (k : KIx s.keyed s.nextNode u)
    (its : ∀ n ∈ s.keyed, (s.slots.getD n.slot default).lruIt = n.slot ∧
      (s.slots.getD n.slot default).keyedIt = n.id) : Good cap s u f :=
  ⟨hub, hc, hs, p.list, p.nodup, p.len, p.lt, p.lend, p.used, k.ids, k.idlt, k.kkeys, k.slots, k.slot_mem,
    k.mem_slot, its⟩

theorem Good.nodup_u (h : Good cap s u f) : u.Nodup := h.part.nodup_u

theorem Good.not_ub (h : Good cap s u f) : ¬ s.ub = true := ne_true_of_eq_false h.ub

theorem Good.slot_lt (h : Good cap s u f) {n : HNode} (hn : n ∈ s.keyed) : n.slot < s.slots.length := by
  rw [h.slen]; exact h.part.lt_u (h.slot_mem n hn)

theorem Good.head_lt {i : Nat} {r : List Nat} (h : Good cap s u (i :: r)) : i < s.slots.length := by
  rw [h.slen]; exact h.lt i (List.mem_append_right _ (List.mem_cons_self ..))

theorem Good.lruIt (h : Good cap s u f) {i : Nat} (hi : i ∈ u) : (s.slots.getD i default).lruIt = i := by
  obtain ⟨n, hn, rfl⟩ := h.mem_slot i hi
  exact (h.its n hn).1

theorem Good.perm (h : Good cap s u f) {u' : List Nat} (hp : u'.Perm u) :
    Good cap { s with lruList := u' ++ f } u' f :=
  Good.of h.ub h.cpos h.slen (h.part.perm hp) (h.kix.congr_u hp) h.its

end

/-! ## the abstraction of a good state -/

/-- the order in which `abs` lists the in-use slots -/
def ord : Flavour → List Nat → List Nat
  | .lru, u => u.reverse
  | .mru, u => u

theorem mem_ord {fl : Flavour} {u : List Nat} {x : Nat} : x ∈ ord fl u ↔ x ∈ u := by
  cases fl <;> simp [ord]

theorem length_ord (fl : Flavour) (u : List Nat) : (ord fl u).length = u.length := by
  cases fl <;> simp [ord]

theorem ord_filter (fl : Flavour) (u : List Nat) (p : Nat → Bool) :
    ord fl (u.filter p) = (ord fl u).filter p := by
  cases fl
  · simp [ord, List.filter_reverse]
  · rfl

section
variable {cap : Nat} {s : LState} {u f : List Nat}

theorem usedPrefix_eq (h : Good cap s u f) : usedPrefix s = u :=
  h.part.usedPrefix

theorem abs_eq (h : Good cap s u f) :
    abs s = { cap := cap, ents := (ord s.fl u).map (entryOf s) } := by
  unfold abs
  rw [usedPrefix_eq h, h.slen]
  cases s.fl <;> rfl

/-- `abs_eq` as the specs use it: `abs s' = ⟨cap, ents⟩` comes down to the equation between the entry lists -/
theorem abs_of {s' : LState} {u' f' : List Nat} (h' : Good cap s' u' f') {fl : Flavour} (hfl : s'.fl = fl)
    {ents : List Entry} (he : (ord fl u').map (entryOf s') = ents) :
    abs s' = { cap := cap, ents := ents } := by
  rw [abs_eq h', hfl, he]

theorem abs_ents (h : Good cap s u f) : (abs s).ents = (ord s.fl u).map (entryOf s) := by
  rw [abs_eq h]

theorem abs_cap (h : Good cap s u f) : (abs s).cap = cap := by
  rw [abs_eq h]

theorem entryOf_node (h : Good cap s u f) {n : HNode} (hn : n ∈ s.keyed) :
    entryOf s n.slot = { key := n.key, val := (s.slots.getD n.slot default).val } :=
  congrArg (fun k => ({ key := k, val := (s.slots.getD n.slot default).val } : Entry)) (h.kix.keyAt_node hn)

theorem getE_abs_some (h : Good cap s u f) {k : Key} {n : HNode} (hf : findNode s k = some n) :
    getE (abs s).ents k = some (entryOf s n.slot) := by
  obtain ⟨hn, rfl⟩ := find?_key_some hf
  rw [abs_ents h, ← h.kix.keyAt_node hn]
  exact h.kix.getE_map_some id (fun _ hx => mem_ord.mp hx) (fun _ _ => rfl) (mem_ord.mpr (h.slot_mem n hn))
    (fun _ _ e => e)

theorem getE_abs_none (h : Good cap s u f) {k : Key} (hf : findNode s k = none) : getE (abs s).ents k = none := by
  rw [abs_ents h]
  exact h.kix.getE_map_none id (fun _ hx => mem_ord.mp hx) (fun _ _ => rfl) (find?_key_none hf)

theorem delE_abs (h : Good cap s u f) {n : HNode} (hn : n ∈ s.keyed) {s' : LState}
    (hne : ∀ x ∈ u, x ≠ n.slot → entryOf s' x = entryOf s x) :
    delE (abs s).ents n.key = ((ord s.fl u).filter (fun x => !(x == n.slot))).map (entryOf s') := by
  rw [abs_ents h, ← h.kix.keyAt_node hn]
  exact h.kix.filter_key Entry.key id (fun _ hx => mem_ord.mp hx) (fun _ _ => rfl) (h.slot_mem n hn)
    (fun x hx => hne x (mem_ord.mp hx))

end

/-! ## `do_access` -/

/-- where `do_access` puts slot `i` within the in-use prefix -/
def acc : Flavour → List Nat → Nat → List Nat
  | .lru, u, i => i :: u.filter (fun x => !(x == i))
  | .mru, u, i => u.filter (fun x => !(x == i)) ++ [i]

theorem acc_perm {fl : Flavour} {u : List Nat} {i : Nat} (hn : u.Nodup) (hi : i ∈ u) :
    (acc fl u i).Perm u := by
  cases fl
  · exact LList.cons_filter_perm hn hi
  · exact LList.filter_snoc_perm hn hi

theorem ord_acc (fl : Flavour) (u : List Nat) (i : Nat) :
    ord fl (acc fl u i) = (ord fl u).filter (fun x => !(x == i)) ++ [i] := by
  cases fl
  · simp [ord, acc, List.filter_reverse]
  · rfl

section
variable {cap : Nat} {s : LState} {u f : List Nat}

theorem doAccess_eq (h : Good cap s u f) {i : Nat} (hi : i ∈ u) :
    doAccess s i = { s with lruList := acc s.fl u i ++ f } := by
  unfold doAccess
  simp only [h.lruIt hi, h.part.contains hi, Bool.not_true, Bool.false_eq_true, if_false]
  cases s.fl
  · rw [h.part.splice_front hi]; rfl
  · rw [h.part.splice_end hi]; rfl

theorem Good.access (h : Good cap s u f) {i : Nat} (hi : i ∈ u) :
    Good cap (doAccess s i) (acc s.fl u i) f := by
  rw [doAccess_eq h hi]
  exact h.perm (acc_perm h.nodup_u hi)

theorem entryOf_doAccess (h : Good cap s u f) {i : Nat} (hi : i ∈ u) (x : Nat) :
    entryOf (doAccess s i) x = entryOf s x := by
  rw [doAccess_eq h hi]; rfl

theorem fl_doAccess (h : Good cap s u f) {i : Nat} (hi : i ∈ u) : (doAccess s i).fl = s.fl := by
  rw [doAccess_eq h hi]

/-- `s'` is `s`, or `s` with the value of the slot rewritten -/
theorem doAccess_spec (h : Good cap s u f) {n : HNode} (hn : n ∈ s.keyed) {s' : LState} (h' : Good cap s' u f)
    (hfl : s'.fl = s.fl) (hkey : (entryOf s' n.slot).key = n.key)
    (hne : ∀ x ∈ u, x ≠ n.slot → entryOf s' x = entryOf s x) :
    Rel s.fl cap (doAccess s' n.slot) { cap := (abs s).cap, ents := Rec.touch (abs s).ents (entryOf s' n.slot) } := by
  have hu := h.slot_mem n hn
  have hacc := h'.access hu
  have hfl' := (fl_doAccess h' hu).trans hfl
  rw [hfl] at hacc
  refine ⟨⟨hfl', _, _, hacc⟩, ?_⟩
  rw [Rec.touch, hkey, delE_abs h hn (fun x hx hx2 => (entryOf_doAccess h' hu x).trans (hne x hx hx2)),
    abs_cap h]
  refine abs_of hacc hfl' ?_
  rw [ord_acc, List.map_append]
  simp only [List.map_cons, List.map_nil, entryOf_doAccess h' hu]

end

/-! ## overwriting a value (what `do_update` does before its `do_access`) -/

theorem Good.setVal {cap : Nat} {s : LState} {u f : List Nat} (h : Good cap s u f) (i : Nat) (v : Val) :
    Good cap { s with slots := s.slots.set i { s.slots.getD i default with val := v } } u f :=
  Good.of h.ub h.cpos (List.length_set.trans h.slen) h.part h.kix
    (back_set (fun (n : HNode) (y : LSlot) => y.lruIt = n.slot ∧ y.keyedIt = n.id) h.its (fun _ => Iff.rfl))

theorem entryOf_set_ne (s : LState) {i x : Nat} (hne : x ≠ i) (y : LSlot) :
    entryOf { s with slots := s.slots.set i y } x = entryOf s x := by
  simp only [entryOf, getD_set_ne hne.symm]

theorem entryOf_set_self (s : LState) {i : Nat} (hi : i < s.slots.length) (y : LSlot) :
    entryOf { s with slots := s.slots.set i y } i = { entryOf s i with val := y.val } := by
  simp only [entryOf, getD_set_self hi]

/-! ## `do_erase` -/

def erased (s : LState) (u f : List Nat) (n : HNode) : LState :=
  { s with lruList := u.filter (fun x => !(x == n.slot)) ++ n.slot :: f,
           lruEnd := some n.slot,
           keyed := s.keyed.filter (fun m => !(m.id == n.id)),
           used := s.used - 1 }

section
variable {cap : Nat} {s : LState} {u f : List Nat}

theorem doErase_eq (h : Good cap s u f) {n : HNode} (hn : n ∈ s.keyed) :
    doErase s n.slot = erased s u f n := by
  have hu := h.slot_mem n hn
  have hlt : ¬ n.slot ≥ s.slots.length := Nat.not_le.mpr (h.slot_lt hn)
  obtain ⟨last, hprev, hl, hprev2⟩ := h.part.move_end hu
  unfold doErase
  simp only [hlt, if_false, hprev, (h.its n hn).1, h.part.contains hu, Bool.not_true, Bool.false_eq_true, hl,
    hprev2, any_label HNode.id hn, if_true, (h.its n hn).2]
  rfl

theorem Good.erase (h : Good cap s u f) {n : HNode} (hn : n ∈ s.keyed) :
    Good cap (erased s u f n) (u.filter (fun x => !(x == n.slot))) (n.slot :: f) :=
  Good.of h.ub h.cpos h.slen (h.part.erase (h.slot_mem n hn)) (h.kix.erase hn)
    (fun m hm => h.its m (List.mem_filter.mp hm).1)

theorem entryOf_erased (h : Good cap s u f) {n : HNode} (hn : n ∈ s.keyed) {x : Nat} (hx : x ∈ u)
    (hne : x ≠ n.slot) : entryOf (erased s u f n) x = entryOf s x :=
  congrArg (fun k => ({ key := k, val := (s.slots.getD x default).val } : Entry)) (h.kix.keyAt_erase hn hx hne)

theorem abs_erased (h : Good cap s u f) {n : HNode} (hn : n ∈ s.keyed) :
    abs (erased s u f n) = { cap := (abs s).cap, ents := delE (abs s).ents n.key } := by
  rw [delE_abs h hn (fun _ hx hne => entryOf_erased h hn hx hne), ← ord_filter, abs_cap h]
  exact abs_of (h.erase hn) rfl rfl

end

/-! ## `do_prune` -/

theorem prune_ord (fl : Flavour) {u : List Nat} {i : Nat} (hn : u.Nodup) (hl : u.getLast? = some i)
    (g : Nat → Entry) :
    Rec.prune (vicOf fl) ((ord fl u).map g) = (ord fl (u.filter (fun x => !(x == i)))).map g := by
  obtain ⟨d, rfl⟩ := List.getLast?_eq_some_iff.mp hl
  rw [LList.filter_ne_snoc fun hm => (List.nodup_append.mp hn).2.2 i hm i (List.mem_singleton_self i) rfl]
  cases fl
  · simp [ord, vicOf, Rec.prune]
  · simp [ord, vicOf, Rec.prune]

/-- both flavours erase the last in-use node; in the order of `abs` that is the victim of either -/
theorem doPrune_spec {cap : Nat} {s : LState} {u : List Nat} (h : Good cap s u []) :
    ∃ n ∈ s.keyed, doPrune s = erased s u [] n ∧
      Rec.prune (vicOf s.fl) (abs s).ents = delE (abs s).ents n.key := by
  have hpos : 0 < s.used := by rw [h.used, show u.length = cap from h.len]; exact h.cpos
  obtain ⟨i, hi, hiu⟩ := h.part.last hpos
  obtain ⟨n, hn, rfl⟩ := h.mem_slot i hiu
  refine ⟨n, hn, ?_, ?_⟩
  · have hl : s.lruList.getLast? = some n.slot := by rw [h.list, List.append_nil]; exact hi
    unfold doPrune
    simp only [gt_iff_lt, hpos, if_true, hl]
    exact doErase_eq h hn
  · rw [delE_abs h hn (fun _ _ _ => rfl), abs_ents h, prune_ord s.fl h.nodup_u hi, ord_filter]

/-! ## `do_insert` -/

/-- where `do_insert` puts the new slot -/
def ins : Flavour → List Nat → Nat → List Nat
  | .lru, u, i => i :: u
  | .mru, u, i => u ++ [i]

theorem ord_ins (fl : Flavour) (u : List Nat) (i : Nat) : ord fl (ins fl u i) = ord fl u ++ [i] := by
  cases fl
  · simp [ord, ins]
  · rfl

theorem ins_perm (fl : Flavour) (u : List Nat) (i : Nat) : (ins fl u i).Perm (u ++ [i]) := by
  cases fl
  · exact (List.perm_append_singleton _ _).symm
  · exact List.Perm.refl _

/-- the state after claiming the first free slot `idx` for key `k` (before `do_access`) -/
def pushed (s : LState) (k : Key) (v : Val) (idx : Nat) : LState :=
  { s with keyed := s.keyed ++ [⟨s.nextNode, k, idx⟩], nextNode := s.nextNode + 1,
           slots := s.slots.set idx ⟨v, idx, s.nextNode⟩,
           lruEnd := LList.next s.lruList idx, used := s.used + 1 }

section
variable {cap : Nat} {s : LState} {u f : List Nat}

theorem Good.push {idx : Nat} {r : List Nat} (h : Good cap s u (idx :: r)) {k : Key}
    (hk : ∀ n ∈ s.keyed, n.key ≠ k) (v : Val) :
    Good cap (pushed s k v idx) (u ++ [idx]) r := by
  have hidx : idx ∉ u := h.part.head_not_mem
  exact Good.of h.ub h.cpos (List.length_set.trans h.slen) h.part.push (h.kix.push hk hidx)
    (h.kix.back_add (fun (n : HNode) (y : LSlot) => y.lruIt = n.slot ∧ y.keyedIt = n.id) h.its hidx
      (List.perm_append_singleton _ _) rfl h.head_lt ⟨rfl, rfl⟩)

theorem entryOf_pushed_old {idx : Nat} {r : List Nat} (h : Good cap s u (idx :: r)) (k : Key) (v : Val) {x : Nat}
    (hx : x ∈ u) : entryOf (pushed s k v idx) x = entryOf s x := by
  have hidx : idx ∉ u := h.part.head_not_mem
  -- `entryOf` finds the key the way `keyAt` does
  show Entry.mk (keyAt (s.keyed ++ [_]) x) ((s.slots.set idx _).getD x default).val 0 0 0 0 = _
  rw [h.kix.keyAt_push_old hx, getD_set_ne (i := idx) (j := x) (fun e => hidx (e ▸ hx))]
  rfl

theorem entryOf_pushed_new {idx : Nat} {r : List Nat} (h : Good cap s u (idx :: r)) (k : Key) (v : Val) :
    entryOf (pushed s k v idx) idx = { key := k, val := v } := by
  show Entry.mk (keyAt (s.keyed ++ [_]) idx) ((s.slots.set idx _).getD idx default).val 0 0 0 0 = _
  rw [h.kix.keyAt_push_new h.part.head_not_mem, getD_set_self h.head_lt]

/-- `s1` is `s`, or `s` after `do_prune` -/
theorem doInsert_eq {s s1 : LState} {u1 r : List Nat} {idx : Nat} (h1 : Good cap s1 u1 (idx :: r))
    (hs1 : (if s.used ≥ s.slots.length then doPrune s else s) = s1) (hfl : s1.fl = s.fl) {k : Key}
    (hk : ∀ n ∈ s1.keyed, n.key ≠ k) (v : Val) :
    doInsert s k v = { pushed s1 k v idx with lruList := ins s.fl u1 idx ++ r } := by
  have h2 := h1.push hk v
  have hlt : ¬ idx ≥ s1.slots.length := Nat.not_le.mpr h1.head_lt
  have hend : s1.lruEnd = some idx := h1.lend
  unfold doInsert
  rw [hs1]
  simp only [hend, hlt, if_false]
  rw [if_neg h1.not_ub]
  cases hf : s.fl
  · have e : acc (pushed s1 k v idx).fl (u1 ++ [idx]) idx = ins Flavour.lru u1 idx := by
      rw [show (pushed s1 k v idx).fl = Flavour.lru from hfl.trans hf]
      exact congrArg (idx :: ·) (LList.filter_ne_snoc h1.part.head_not_mem)
    show doAccess (pushed s1 k v idx) idx = _
    rw [doAccess_eq h2 (List.mem_append_right _ (List.mem_singleton_self _)), e]
  · show pushed s1 k v idx = { pushed s1 k v idx with lruList := (u1 ++ [idx]) ++ r }
    rw [← h2.list]

/-- the insert proper, after the optional prune (`s1` as in `doInsert_eq`) -/
theorem finish_spec {s s1 : LState} {u1 r : List Nat} {idx : Nat} (h1 : Good cap s1 u1 (idx :: r))
    (hs1 : (if s.used ≥ s.slots.length then doPrune s else s) = s1) (hfl : s1.fl = s.fl) {k : Key}
    (hk : ∀ n ∈ s1.keyed, n.key ≠ k) (v : Val) :
    Rel s.fl cap (doInsert s k v) { cap := (abs s1).cap, ents := (abs s1).ents ++ [{ key := k, val := v }] } := by
  have hg := (h1.push hk v).perm (ins_perm s.fl u1 idx)
  rw [doInsert_eq h1 hs1 hfl hk v, abs_ents h1, abs_cap h1, hfl]
  refine ⟨⟨hfl, _, _, hg⟩, abs_of hg hfl ?_⟩
  rw [ord_ins, List.map_append]
  -- `entryOf` does not read `lruList`
  show (ord s.fl u1).map (entryOf (pushed s1 k v idx)) ++ [entryOf (pushed s1 k v idx) idx] = _
  rw [List.map_congr_left fun x hx => entryOf_pushed_old h1 k v (mem_ord.mp hx), entryOf_pushed_new h1 k v]

theorem doInsert_spec (h : Good cap s u f) {k : Key} (hk : ∀ n ∈ s.keyed, n.key ≠ k) (v : Val) :
    Rel s.fl cap (doInsert s k v)
      { cap := (abs s).cap,
        ents := (if (abs s).ents.length ≥ (abs s).cap then Rec.prune (vicOf s.fl) (abs s).ents
                 else (abs s).ents) ++ [{ key := k, val := v }] } := by
  have hc : (abs s).ents.length ≥ (abs s).cap ↔ s.used ≥ s.slots.length := by
    rw [abs_ents h, abs_cap h, List.length_map, length_ord, h.used, h.slen]
  by_cases hfull : s.used ≥ s.slots.length
  · obtain rfl := h.part.full (h.slen ▸ hfull)
    obtain ⟨n, hn, hpr, hl1⟩ := doPrune_spec h
    have hs := finish_spec (s := s) (h.erase hn) ((if_pos hfull).trans hpr) rfl
      (fun m hm => hk m (List.mem_filter.mp hm).1) v
    rw [abs_erased h hn] at hs
    rw [if_pos (hc.mpr hfull), hl1]
    exact hs
  · obtain ⟨idx, r, rfl⟩ := h.part.not_full (h.slen ▸ hfull)
    rw [if_neg (mt hc.mp hfull)]
    exact finish_spec h (if_neg hfull) rfl hk v

end

/-! ## the single-key primitives, case by case -/

section
variable {s : LState}

theorem insert1_none (hub : s.ub = false) {k : Key} (hf : findNode s k = none) (v : Val) (a : Allow) :
    insert1 s k v a = if a.ins then (doInsert s k v, true) else (s, false) := by
  simp only [insert1, hub, hf, Bool.false_eq_true, if_false]

theorem insert1_some (hub : s.ub = false) {k : Key} {n : HNode} (hf : findNode s k = some n)
    (hlt : n.slot < s.slots.length) (v : Val) (a : Allow) :
    insert1 s k v a =
      if a.upd then
        (doAccess { s with slots := s.slots.set n.slot { s.slots.getD n.slot default with val := v } } n.slot, true)
      else (s, false) := by
  simp only [insert1, hub, hf, Bool.false_eq_true, if_false, Nat.not_le.mpr hlt]

theorem find1_none (hub : s.ub = false) {k : Key} (hf : findNode s k = none) (peek : Bool) :
    find1 s k peek = (s, none) := by
  simp only [find1, hub, hf, Bool.false_eq_true, if_false]

theorem find1_some (hub : s.ub = false) {k : Key} {n : HNode} (hf : findNode s k = some n)
    (hlt : n.slot < s.slots.length) (peek : Bool) :
    find1 s k peek = (if peek then s else doAccess s n.slot, some ((s.slots.getD n.slot default).val, 0)) := by
  simp only [find1, hub, hf, Bool.false_eq_true, if_false, Nat.not_le.mpr hlt]

theorem erase1_none (hub : s.ub = false) {k : Key} (hf : findNode s k = none) : erase1 s k = (s, false) := by
  simp only [erase1, hub, hf, Bool.false_eq_true, if_false]

theorem erase1_some (hub : s.ub = false) {k : Key} {n : HNode} (hf : findNode s k = some n) :
    erase1 s k = (doErase s n.slot, true) := by
  simp only [erase1, hub, hf, Bool.false_eq_true, if_false]

end

section
variable {cap : Nat} {s : LState} {u f : List Nat}

theorem rel_self (h : Good cap s u f) : Rel s.fl cap s (abs s) := ⟨⟨rfl, u, f, h⟩, rfl⟩

theorem sim_insert1 (h : Good cap s u f) (k : Key) (v : Val) (a : Allow) :
    (insert1 s k v a).2 = (Rec.insert1 (vicOf s.fl) (abs s) k v a).2 ∧
    Rel s.fl cap (insert1 s k v a).1 (Rec.insert1 (vicOf s.fl) (abs s) k v a).1 := by
  cases hf : findNode s k with
  | none =>
    rw [insert1_none h.ub hf, Rec.insert1_none (getE_abs_none h hf)]
    cases a.ins
    · exact ⟨rfl, rel_self h⟩
    · exact ⟨rfl, doInsert_spec h (find?_key_none hf) v⟩
  | some n =>
    obtain ⟨hn, rfl⟩ := find?_key_some hf
    have hlt := h.slot_lt hn
    rw [insert1_some h.ub hf hlt, Rec.insert1_some (getE_abs_some h hf)]
    cases a.upd
    · exact ⟨rfl, rel_self h⟩
    · have hs := doAccess_spec h hn (h.setVal n.slot v) rfl
        (by rw [entryOf_set_self s hlt, entryOf_node h hn])
        (fun x _ hx => entryOf_set_ne s hx _)
      rw [entryOf_set_self s hlt] at hs
      exact ⟨rfl, hs⟩

theorem sim_find1 (h : Good cap s u f) (k : Key) (peek : Bool) :
    (find1 s k peek).2 = (Rec.find1 (abs s) k peek).2 ∧
    Rel s.fl cap (find1 s k peek).1 (Rec.find1 (abs s) k peek).1 := by
  cases hf : findNode s k with
  | none =>
    rw [find1_none h.ub hf, Rec.find1_none (getE_abs_none h hf)]
    exact ⟨rfl, rel_self h⟩
  | some n =>
    obtain ⟨hn, rfl⟩ := find?_key_some hf
    rw [find1_some h.ub hf (h.slot_lt hn), Rec.find1_some (getE_abs_some h hf)]
    cases peek
    · exact ⟨rfl, doAccess_spec h hn h rfl (by rw [entryOf_node h hn]) (fun _ _ _ => rfl)⟩
    · exact ⟨rfl, rel_self h⟩

theorem sim_erase1 (h : Good cap s u f) (k : Key) :
    (erase1 s k).2 = (Rec.erase1 (abs s) k).2 ∧ Rel s.fl cap (erase1 s k).1 (Rec.erase1 (abs s) k).1 := by
  cases hf : findNode s k with
  | none =>
    rw [erase1_none h.ub hf, Rec.erase1_none (getE_abs_none h hf)]
    exact ⟨rfl, rel_self h⟩
  | some n =>
    obtain ⟨hn, rfl⟩ := find?_key_some hf
    rw [erase1_some h.ub hf, Rec.erase1_some (getE_abs_some h hf), doErase_eq h hn]
    exact ⟨rfl, ⟨rfl, _, _, h.erase hn⟩, abs_erased h hn⟩

end

/-! ## every history -/

theorem good_init (fl : Flavour) {cap : Nat} (hcap : 0 < cap) :
    Good cap (init fl cap) [] (List.range cap) :=
  Good.of rfl hcap (List.length_replicate ..) (Part.init cap) KIx.nil (fun _ hn => absurd hn List.not_mem_nil)

theorem abs_init (fl : Flavour) (cap : Nat) : abs (init fl cap) = Rec.init cap := by
  cases cap with
  | zero => cases fl <;> rfl
  | succ n => rw [abs_eq (good_init fl (Nat.succ_pos n))]; cases fl <;> rfl

theorem sim (fl : Flavour) (cap : Nat) : Sim core (Rec.core (vicOf fl)) (Rel fl cap) where
  pre _ _ _ hr := hr
  insert1 := by
    rintro s _ now k v a ttl ⟨⟨rfl, u, f, h⟩, rfl⟩
    exact sim_insert1 h k v a
  find1 := by
    rintro s _ now k peek ⟨⟨rfl, u, f, h⟩, rfl⟩
    exact sim_find1 h k peek
  erase1 := by
    rintro s _ k ⟨⟨rfl, u, f, h⟩, rfl⟩
    exact sim_erase1 h k
  noClearC := rfl
  noClearD := rfl
  clean _ _ _ hr := ⟨rfl, hr⟩
  age _ _ _ hr := ⟨rfl, hr⟩
  updateTtl _ _ _ hr := hr
  size := by
    rintro s _ ⟨⟨_, u, f, h⟩, rfl⟩
    show s.used = (abs s).ents.length
    rw [abs_eq h, h.used, List.length_map, length_ord]
  capacity _ _ hr := congrArg RecState.cap hr.2

theorem run_good {fl : Flavour} {cap : Nat} {s : LState} (h : s.fl = fl ∧ ∃ u f, Good cap s u f)
    (ops : List (Time × Op)) :
    ((core.run s ops).1.fl = fl ∧ ∃ u f, Good cap (core.run s ops).1 u f) ∧
    (core.run s ops).2 = ((Rec.core (vicOf fl)).run (abs s) ops).2 ∧
    abs (core.run s ops).1 = ((Rec.core (vicOf fl)).run (abs s) ops).1 :=
  (sim fl cap).toSim2.run_abs h ops

/-- **C08 (model part), lru_cache and mru_cache**: the slot/iterator-level model never dereferences `end()`,
never decrements `begin()`, never indexes out of range, never erases through a stale hash iterator. -/
theorem no_ub (fl : Flavour) (cap : Nat) (hcap : 0 < cap) (ops : List (Time × Op)) :
    (core.run (init fl cap) ops).1.ub = false := by
  obtain ⟨⟨_, u, f, h⟩, _⟩ := run_good ⟨rfl, _, _, good_init fl hcap⟩ ops
  exact h.ub

/-- same results as the L1 model on every history; the L2 state abstracts to the L1 state -/
theorem refines_l1 (fl : Flavour) (cap : Nat) (hcap : 0 < cap) (ops : List (Time × Op)) :
    (core.run (init fl cap) ops).2 = ((l1core fl).run (Rec.init cap) ops).2 ∧
    abs (core.run (init fl cap) ops).1 = ((l1core fl).run (Rec.init cap) ops).1 := by
  have h := run_good ⟨rfl, _, _, good_init fl hcap⟩ ops
  rw [abs_init, ← l1core_eq] at h
  exact h.2

end Verif.L2.Slot
