import Verif.Concrete.Node
import Verif.Proofs.L2.Mem
/-!
# L2 `lfu_cache` / `lfuda_cache`: the node-level model by itself

The first half of what `Slot.lean` does in one file (see its header): the invariant `Good`, and each helper of the
C++ as an explicit state with `Good` of that state.  lfu and lfuda are one model with a flag (`CState.da`), which
stays a variable here; the L1 models and the abstraction enter in `Cnt.lean`.
-/
namespace Verif.L2.Cnt
open Verif

/-! ## `fileQ` (`multimap::emplace`) -/

theorem fileQ_eq (l : List QNode) (x : QNode) :
    fileQ l x = l.takeWhile (fun y => decide (y.cnt ≤ x.cnt)) ++ x :: l.dropWhile (fun y => decide (y.cnt ≤ x.cnt)) :=
  file_eq (fileQ · x) (fun y => y.cnt ≤ x.cnt) rfl (fun _ _ => rfl) l

theorem fileQ_perm (l : List QNode) (x : QNode) : (fileQ l x).Perm (x :: l) := by
  rw [fileQ_eq]; exact file_perm l x

theorem length_fileQ (l : List QNode) (x : QNode) : (fileQ l x).length = l.length + 1 := by
  simpa using (fileQ_perm l x).length_eq

/-! ## the invariant -/

/-- As `Slot.Good`, with the multimap `m_lfu_list`: an `Ix` over the same in-use nodes (`qids` … `mem_node`) and
its back pointers `qit`. -/
structure Good (cap : Nat) (s : CState) (u f : List Nat) : Prop where
  ub : s.ub = false
  cpos : 0 < cap
  nlen : s.nodes.length = cap
  list : s.order = u ++ f
  nodup : (u ++ f).Nodup
  len : u.length + f.length = cap
  lt : ∀ x ∈ u ++ f, x < cap
  oend : s.openEnd = f.head?
  used : s.used = u.length
  ids : s.keyed.Pairwise (fun a b => a.id ≠ b.id)
  idlt : ∀ n ∈ s.keyed, n.id < s.nextNode
  kkeys : s.keyed.Pairwise (fun a b => a.key ≠ b.key)
  kslots : s.keyed.Pairwise (fun a b => a.slot ≠ b.slot)
  slot_mem : ∀ n ∈ s.keyed, n.slot ∈ u
  mem_slot : ∀ x ∈ u, ∃ n ∈ s.keyed, n.slot = x
  kit : ∀ n ∈ s.keyed, (s.nodes.getD n.slot default).keyedIt = n.id
  qids : s.lfuq.Pairwise (fun a b => a.id ≠ b.id)
  qidlt : ∀ q ∈ s.lfuq, q.id < s.nextQ
  qnodes : s.lfuq.Pairwise (fun a b => a.node ≠ b.node)
  node_mem : ∀ q ∈ s.lfuq, q.node ∈ u
  mem_node : ∀ x ∈ u, ∃ q ∈ s.lfuq, q.node = x
  qit : ∀ q ∈ s.lfuq, (s.nodes.getD q.node default).lfuIt = q.id

section
variable {cap : Nat} {s : CState} {u f : List Nat}

theorem Good.part (h : Good cap s u f) : Part cap s.order s.openEnd s.used u f :=
  ⟨h.list, h.nodup, h.len, h.lt, h.oend, h.used⟩

theorem Good.kix (h : Good cap s u f) : KIx s.keyed s.nextNode u :=
  ⟨⟨h.ids, h.idlt, h.kslots, h.slot_mem, h.mem_slot⟩, h.kkeys⟩

theorem Good.qix (h : Good cap s u f) : Ix QNode.id QNode.node s.lfuq s.nextQ u :=
  ⟨h.qids, h.qidlt, h.qnodes, h.node_mem, h.mem_node⟩

theorem Good.of (hub : s.ub = false) (hc : 0 < cap) (hs : s.nodes.length = cap)
    (p : Part cap s.order s.openEnd s.used u f) (k : KIx s.keyed s.nextNode u)
    (kit : ∀ n ∈ s.keyed, (s.nodes.getD n.slot default).keyedIt = n.id)
    (q : Ix QNode.id QNode.node s.lfuq s.nextQ u)
    (qit : ∀ q ∈ s.lfuq, (s.nodes.getD q.node default).lfuIt = q.id) : Good cap s u f :=
  ⟨hub, hc, hs, p.list, p.nodup, p.len, p.lt, p.lend, p.used, k.ids, k.idlt, k.kkeys, k.slots, k.slot_mem,
    k.mem_slot, kit, q.ids, q.idlt, q.slots, q.slot_mem, q.mem_slot, qit⟩

theorem Good.nodup_u (h : Good cap s u f) : u.Nodup := h.part.nodup_u

theorem Good.lt_u (h : Good cap s u f) {x : Nat} (hx : x ∈ u) : x < s.nodes.length := by
  rw [h.nlen]; exact h.part.lt_u hx

theorem Good.slot_lt (h : Good cap s u f) {n : HNode} (hn : n ∈ s.keyed) : n.slot < s.nodes.length :=
  h.lt_u (h.slot_mem n hn)

theorem Good.node_lt (h : Good cap s u f) {q : QNode} (hq : q ∈ s.lfuq) : q.node < s.nodes.length :=
  h.lt_u (h.node_mem q hq)

theorem Good.head_lt {i : Nat} {r : List Nat} (h : Good cap s u (i :: r)) : i < s.nodes.length := by
  rw [h.nlen]; exact h.lt i (List.mem_append_right _ (List.mem_cons_self ..))

theorem Good.not_ub (h : Good cap s u f) : ¬ s.ub = true := ne_true_of_eq_false h.ub

theorem Good.order_len (h : Good cap s u f) : s.order.length = cap := h.part.length

theorem Good.lfuq_len (h : Good cap s u f) : s.lfuq.length = u.length := h.qix.length h.nodup_u

theorem Good.cntOf (h : Good cap s u f) {q : QNode} (hq : q ∈ s.lfuq) : cntOf s q.node = some q.cnt := by
  unfold Cnt.cntOf
  rw [h.qit q hq, h.qix.find_id hq]
  rfl

end

/-! ## re-filing: the explicit state -/

/-- what `do_access`, `do_update` and a turn of `do_dynamic_age` all leave: list node `nd` (multimap node `qid`)
re-filed at count `c`; node list, value and stamp as the caller says -/
def reState (s : CState) (nd qid c : Nat) (ord : List Nat) (v : Val) (st : Time) : CState :=
  { s with order := ord,
           lfuq := fileQ (s.lfuq.filter (fun x => !(x.id == qid))) ⟨s.nextQ, c, nd⟩,
           nextQ := s.nextQ + 1,
           nodes := s.nodes.set nd ⟨v, (s.nodes.getD nd default).keyedIt, s.nextQ, st⟩ }

theorem refile_eq {s : CState} {nd qid : Nat} (hit : (s.nodes.getD nd default).lfuIt = qid)
    (hany : s.lfuq.any (fun x => x.id == qid) = true) (c : Nat) :
    refile s nd c = reState s nd qid c s.order (s.nodes.getD nd default).val (s.nodes.getD nd default).stamp := by
  unfold refile
  simp only [hit, hany, Bool.not_true, Bool.false_eq_true, if_false]
  rfl

theorem refile_stamped {s : CState} {nd qid : Nat} (hlt : nd < s.nodes.length)
    (hit : (s.nodes.getD nd default).lfuIt = qid) (hany : s.lfuq.any (fun x => x.id == qid) = true)
    (ord : List Nat) (now : Time) (c : Nat) :
    refile { s with order := ord, nodes := s.nodes.set nd { s.nodes.getD nd default with stamp := now } } nd c
      = reState s nd qid c ord (s.nodes.getD nd default).val now := by
  have hit' : ((s.nodes.set nd { s.nodes.getD nd default with stamp := now }).getD nd default).lfuIt = qid := by
    rw [getD_set_self hlt]; exact hit
  refine (refile_eq (s := { s with order := ord, nodes := s.nodes.set nd { s.nodes.getD nd default with stamp := now } })
    hit' hany c).trans ?_
  simp only [Cnt.reState, getD_set_self hlt, List.set_set]

theorem reState_getD_ne (s : CState) {nd y : Nat} (hne : y ≠ nd) (qid c : Nat) (ord : List Nat) (v : Val) (st : Time) :
    (reState s nd qid c ord v st).nodes.getD y default = s.nodes.getD y default :=
  getD_set_ne hne.symm

theorem reState_getD_self {s : CState} {nd : Nat} (hlt : nd < s.nodes.length) (qid c : Nat) (ord : List Nat)
    (v : Val) (st : Time) :
    (reState s nd qid c ord v st).nodes.getD nd default = ⟨v, (s.nodes.getD nd default).keyedIt, s.nextQ, st⟩ :=
  getD_set_self hlt

section
variable {cap : Nat} {s : CState} {u f : List Nat}

theorem Good.reState (h : Good cap s u f) {q : QNode} (hq : q ∈ s.lfuq) {u' : List Nat} (hp : u'.Perm u)
    (c : Nat) (v : Val) (st : Time) :
    Good cap (reState s q.node q.id c (u' ++ f) v st) u' f := by
  have hlt := h.node_lt hq
  have hq' := fileQ_perm (s.lfuq.filter (fun x => !(x.id == q.id))) ⟨s.nextQ, c, q.node⟩
  exact Good.of h.ub h.cpos ((List.length_set ..).trans h.nlen) (h.part.perm hp) (h.kix.congr_u hp)
    (back_set (fun (n : HNode) (y : CNode) => y.keyedIt = n.id) h.kit (fun _ => Iff.rfl))
    ((h.qix.refile (x := ⟨s.nextQ, c, q.node⟩) hq rfl (fun y hy _ => Nat.ne_of_lt (h.qidlt y hy)) (Nat.lt_succ_self _)
      (Nat.le_succ _) hq').congr_u hp)
    ((h.qix.erase hq).back_add (fun (m : QNode) (y : CNode) => y.lfuIt = m.id) (x := ⟨s.nextQ, c, q.node⟩)
      (fun m hm => h.qit m (List.mem_filter.mp hm).1) (LList.not_mem_filter_ne u _) hq' rfl hlt rfl)

theorem Good.setVal (h : Good cap s u f) (i : Nat) (v : Val) :
    Good cap { s with nodes := s.nodes.set i { s.nodes.getD i default with val := v } } u f :=
  Good.of h.ub h.cpos ((List.length_set ..).trans h.nlen) h.part h.kix
    (back_set (fun (n : HNode) (y : CNode) => y.keyedIt = n.id) h.kit (fun _ => Iff.rfl)) h.qix
    (back_set (fun (q : QNode) (y : CNode) => y.lfuIt = q.id) h.qit (fun _ => Iff.rfl))

theorem reState_setVal (s : CState) (nd qid c : Nat) (ord : List Nat) (v v' : Val) (st : Time) :
    Cnt.reState { s with nodes := s.nodes.set nd { s.nodes.getD nd default with val := v' } } nd qid c ord v st
      = Cnt.reState s nd qid c ord v st := by
  by_cases hi : nd < s.nodes.length
  · simp only [Cnt.reState, getD_set_self hi, List.set_set]
  · simp only [Cnt.reState, List.set_eq_of_length_le (Nat.le_of_not_lt hi)]

end

/-! ## `do_access` -/

section
variable {cap : Nat} {s : CState} {u f : List Nat}

theorem doAccess_eq (h : Good cap s u f) {q : QNode} (hq : q ∈ s.lfuq) (now : Time) :
    doAccess s q.node now = reState s q.node q.id (q.cnt + 1)
      (if s.da then (u.filter (fun x => !(x == q.node)) ++ [q.node]) ++ f else u ++ f)
      (s.nodes.getD q.node default).val (if s.da then now else (s.nodes.getD q.node default).stamp) := by
  have hnd : q.node ∈ u := h.node_mem q hq
  have hlt := h.node_lt hq
  obtain ⟨last, hprev, hord, _⟩ := h.part.move_end hnd
  have hub : (reState s q.node q.id (q.cnt + 1) s.order (s.nodes.getD q.node default).val
      (s.nodes.getD q.node default).stamp).ub = false := h.ub
  unfold doAccess
  rw [h.cntOf hq]
  simp only [refile_eq (h.qit q hq) (any_label QNode.id hq), hub, Bool.false_eq_true, if_false]
  cases hda : s.da
  · simp only [Bool.not_false, Bool.false_eq_true, if_true, if_false]
    rw [h.list]
  · simp only [Bool.not_true, Bool.false_eq_true, if_false, if_true, Cnt.reState, hprev, hord, getD_set_self hlt,
      List.set_set, h.ub, List.append_assoc, List.cons_append, List.nil_append]

/-- `doAccess_eq` without the flag -/
theorem doAccess_reState (h : Good cap s u f) {q : QNode} (hq : q ∈ s.lfuq) (now : Time) :
    ∃ u' st, u'.Perm u ∧
      doAccess s q.node now = reState s q.node q.id (q.cnt + 1) (u' ++ f) (s.nodes.getD q.node default).val st := by
  rw [doAccess_eq h hq now]
  cases s.da
  · exact ⟨u, _, List.Perm.refl u, rfl⟩
  · exact ⟨_, _, LList.filter_snoc_perm h.nodup_u (h.node_mem q hq), rfl⟩

/-- `do_update`: the value is overwritten, then `do_access` -/
theorem doAccess_setVal (h : Good cap s u f) {q : QNode} (hq : q ∈ s.lfuq) (v : Val) (now : Time) :
    doAccess { s with nodes := s.nodes.set q.node { s.nodes.getD q.node default with val := v } } q.node now =
      reState s q.node q.id (q.cnt + 1)
        (if s.da then (u.filter (fun x => !(x == q.node)) ++ [q.node]) ++ f else u ++ f) v
        (if s.da then now else (s.nodes.getD q.node default).stamp) := by
  have hlt := h.node_lt hq
  rw [doAccess_eq (h.setVal q.node v) (q := q) hq now, reState_setVal, getD_set_self hlt]

end

/-! ## `do_dynamic_age`: one turn of the loop -/

/-- in place of `unfold ageLoop`, which would have Lean derive the equation lemmas of the recursion; `daLast.getD`
is the model's match on `daLast` -/
theorem ageLoop_succ (now : Time) (fuel : Nat) (s : CState) (daLast : Option (Option Nat)) (n : Nat) :
    ageLoop now (fuel + 1) s daLast n =
      if s.ub then (s, n) else
      match s.order.head? with
      | none => (s, n)
      | some st =>
        if some st = s.openEnd then (s, n) else
        if (s.nodes.getD st default).stamp + s.tick < now then
          let tgt := daLast.getD s.openEnd
          let s1 := { s with order := if some st ≠ tgt then LList.splice s.order tgt st else s.order,
                             nodes := s.nodes.set st { s.nodes.getD st default with stamp := now } }
          match cntOf s1 st with
          | none => (fail s1, n)
          | some c => ageLoop now fuel (refile s1 st (c * s.num / s.den)) (some (some st)) (n + 1)
        else (s, n) := by
  cases daLast <;> rfl

def aged (s : CState) (q : QNode) (ord : List Nat) (now : Time) : CState :=
  reState s q.node q.id (q.cnt * s.num / s.den) ord (s.nodes.getD q.node default).val now

theorem cntOf_stamped {s : CState} {nd : Nat} (hlt : nd < s.nodes.length) (ord : List Nat) (now : Time) :
    cntOf { s with order := ord, nodes := s.nodes.set nd { s.nodes.getD nd default with stamp := now } } nd
      = cntOf s nd := by
  unfold cntOf
  rw [getD_set_self hlt]

section
variable {cap : Nat} {s : CState} {u f : List Nat}

theorem ageLoop_stop (h : Good cap s u f) (now : Time)
    (hhd : ∀ x, u.head? = some x → ¬ (s.nodes.getD x default).stamp + s.tick < now) (fuel : Nat)
    (daLast : Option (Option Nat)) (n : Nat) : ageLoop now fuel s daLast n = (s, n) := by
  cases fuel with
  | zero => rfl
  | succ fuel =>
    rw [ageLoop_succ, if_neg h.not_ub, h.list, h.oend]
    cases u with
    | nil =>
      cases f with
      | nil => rfl
      | cons a b => exact if_pos rfl
    | cons x t =>
      show (if some x = f.head? then (s, n) else if _ then _ else (s, n)) = (s, n)
      rw [if_neg (hhd x rfl)]
      exact ite_self _

/-- `p` are the nodes aged so far: the next one is spliced in front of them, at `da_last` (`daLast`;
`m_open_list_end` itself before the first turn) -/
theorem ageLoop_step {q : QNode} {w p : List Nat} (h : Good cap s (q.node :: w ++ p) f) (hq : q ∈ s.lfuq)
    (now : Time) {daLast : Option (Option Nat)} (htgt : daLast.getD s.openEnd = (p ++ f).head?)
    (hidle : (s.nodes.getD q.node default).stamp + s.tick < now) (fuel n : Nat) :
    ageLoop now (fuel + 1) s daLast n =
      ageLoop now fuel (aged s q ((w ++ q.node :: p) ++ f) now) (some (some q.node)) (n + 1) := by
  have hlt := h.node_lt hq
  have hnd : ((q.node :: w) ++ (p ++ f)).Nodup := List.append_assoc .. ▸ h.nodup
  have hxpf : q.node ∉ p ++ f := fun hm =>
    (List.nodup_append.mp hnd).2.2 q.node (List.mem_cons_self ..) q.node hm rfl
  have hnt : some q.node ≠ (p ++ f).head? := fun e => hxpf (List.mem_of_mem_head? e.symm)
  have hne : ¬ some q.node = s.openEnd := fun e =>
    hxpf (List.mem_append_right _ (List.mem_of_mem_head? (h.oend ▸ e.symm)))
  have hord : s.order = (q.node :: w) ++ (p ++ f) := h.list.trans (List.append_assoc ..)
  have hsp : LList.splice s.order (p ++ f).head? q.node = (w ++ q.node :: p) ++ f := by
    rw [hord, LList.splice_partition hnd (List.mem_cons_self ..),
      LList.filter_ne_head (List.nodup_cons.mp (List.nodup_append.mp hnd).1).1, List.append_assoc]
    rfl
  have hhead : s.order.head? = some q.node := by rw [hord]; rfl
  rw [ageLoop_succ]
  simp only [if_neg h.not_ub, hhead, if_neg hne, if_pos hidle, cntOf_stamped hlt, h.cntOf hq,
    refile_stamped hlt (h.qit q hq) (any_label QNode.id hq)]
  rw [htgt, if_pos hnt, hsp]
  rfl

end

/-! ## `do_erase` -/

def erased (s : CState) (u f : List Nat) (n : HNode) (q : QNode) : CState :=
  { s with order := u.filter (fun x => !(x == n.slot)) ++ n.slot :: f, openEnd := some n.slot,
           keyed := s.keyed.filter (fun m => !(m.id == n.id)),
           lfuq := s.lfuq.filter (fun m => !(m.id == q.id)), used := s.used - 1 }

section
variable {cap : Nat} {s : CState} {u f : List Nat}

theorem doErase_eq (h : Good cap s u f) {n : HNode} (hn : n ∈ s.keyed) {q : QNode} (hq : q ∈ s.lfuq)
    (hqn : q.node = n.slot) : doErase s n.slot = erased s u f n q := by
  have hu := h.slot_mem n hn
  have hlt : ¬ n.slot ≥ s.nodes.length := Nat.not_le.mpr (h.slot_lt hn)
  obtain ⟨last, hprev, hl, hprev2⟩ := h.part.move_end hu
  have hqit : (s.nodes.getD n.slot default).lfuIt = q.id := by rw [← hqn]; exact h.qit q hq
  unfold doErase
  simp only [hlt, if_false, h.part.contains hu, Bool.not_true, Bool.false_eq_true, hprev, hl, hprev2,
    h.kit n hn, any_label HNode.id hn, hqit, any_label QNode.id hq]
  rfl

theorem Good.erase (h : Good cap s u f) {n : HNode} (hn : n ∈ s.keyed) {q : QNode} (hq : q ∈ s.lfuq)
    (hqn : q.node = n.slot) :
    Good cap (erased s u f n q) (u.filter (fun x => !(x == n.slot))) (n.slot :: f) :=
  Good.of h.ub h.cpos h.nlen (h.part.erase (h.slot_mem n hn)) (h.kix.erase hn)
    (fun m hm => h.kit m (List.mem_filter.mp hm).1) (hqn ▸ h.qix.erase hq)
    (fun m hm => h.qit m (List.mem_filter.mp hm).1)

end

/-! ## `do_prune` -/

/-- `h1` is assumed: that the aging walk of lfuda keeps the invariant is proved with its L1 reading
(`dynAge_spec` in `Cnt.lean`) -/
theorem doPrune_eq {cap : Nat} {s s1 : CState} {u1 f : List Nat} (h1 : Good cap s1 u1 f) (now : Time)
    (hs1 : (if s.da then (dynAge s now).1 else s) = s1) (hpos : 0 < s.used) (hpos1 : 0 < u1.length) :
    ∃ n ∈ s1.keyed, ∃ q rest, s1.lfuq = q :: rest ∧ q ∈ s1.lfuq ∧ q.node = n.slot ∧
      doPrune s now = erased s1 u1 f n q := by
  obtain ⟨q, rest, hl⟩ : ∃ q rest, s1.lfuq = q :: rest :=
    List.exists_cons_of_length_pos (h1.lfuq_len ▸ hpos1)
  have hq : q ∈ s1.lfuq := hl ▸ List.mem_cons_self ..
  obtain ⟨n, hn, hnq⟩ := h1.mem_slot q.node (h1.node_mem q hq)
  refine ⟨n, hn, q, rest, hl, hq, hnq.symm, ?_⟩
  unfold doPrune
  simp only [hpos, if_true, hs1, h1.not_ub, hl]
  rw [← hnq]
  exact doErase_eq h1 hn hq hnq.symm

/-! ## `do_insert`: claiming the first free node -/

def pushed (s : CState) (now : Time) (k : Key) (v : Val) (nd : Nat) : CState :=
  { s with keyed := s.keyed ++ [⟨s.nextNode, k, nd⟩], nextNode := s.nextNode + 1,
           lfuq := fileQ s.lfuq ⟨s.nextQ, 1, nd⟩, nextQ := s.nextQ + 1,
           nodes := s.nodes.set nd ⟨v, s.nextNode, s.nextQ, now⟩,
           openEnd := LList.next s.order nd, used := s.used + 1 }

theorem pushed_getD_ne (s : CState) {nd y : Nat} (hne : y ≠ nd) (now : Time) (k : Key) (v : Val) :
    (pushed s now k v nd).nodes.getD y default = s.nodes.getD y default :=
  getD_set_ne hne.symm

theorem pushed_getD_self {s : CState} {nd : Nat} (hlt : nd < s.nodes.length) (now : Time) (k : Key) (v : Val) :
    (pushed s now k v nd).nodes.getD nd default = ⟨v, s.nextNode, s.nextQ, now⟩ :=
  getD_set_self hlt

section
variable {cap : Nat} {s : CState} {u f : List Nat}

theorem doInsert_eq {s s1 : CState} {u1 r : List Nat} {nd : Nat} {now : Time} (h1 : Good cap s1 u1 (nd :: r))
    (hs1 : (if s.used ≥ s.order.length then doPrune s now else s) = s1) (k : Key) (v : Val) :
    doInsert s now k v = pushed s1 now k v nd := by
  have hlt : ¬ nd ≥ s1.nodes.length := Nat.not_le.mpr h1.head_lt
  have hend : s1.openEnd = some nd := h1.oend
  unfold doInsert
  rw [hs1]
  simp only [if_neg h1.not_ub, hend, hlt, if_false]
  rfl

theorem Good.push {nd : Nat} {r : List Nat} (h : Good cap s u (nd :: r)) {k : Key}
    (hk : ∀ n ∈ s.keyed, n.key ≠ k) (now : Time) (v : Val) :
    Good cap (pushed s now k v nd) (u ++ [nd]) r := by
  have hidx : nd ∉ u := h.part.head_not_mem
  have hlt := h.head_lt
  have hq := fileQ_perm s.lfuq ⟨s.nextQ, 1, nd⟩
  exact Good.of h.ub h.cpos ((List.length_set ..).trans h.nlen) h.part.push (h.kix.push hk hidx)
    (h.kix.back_add (fun (n : HNode) (y : CNode) => y.keyedIt = n.id) h.kit hidx
      (List.perm_append_singleton _ _) rfl hlt rfl)
    (h.qix.push (x := ⟨s.nextQ, 1, nd⟩) rfl hidx hq)
    (h.qix.back_add (fun (q : QNode) (y : CNode) => y.lfuIt = q.id) h.qit hidx hq rfl hlt rfl)

end

/-! ## the initial state -/

theorem good_init (da : Bool) {cap : Nat} (hcap : 0 < cap) (tickMs num den : Nat) :
    Good cap (init da cap tickMs num den) [] (List.range cap) :=
  Good.of rfl hcap List.length_replicate (Part.init cap) KIx.nil (fun _ hn => (List.not_mem_nil hn).elim) Ix.nil
    (fun _ hq => (List.not_mem_nil hq).elim)

end Verif.L2.Cnt
