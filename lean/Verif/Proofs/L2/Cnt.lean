import Verif.Concrete.Node
import Verif.Model.Lfu
import Verif.Proofs.L2.CntGood
import Verif.Proofs.ModelLemmas
import Verif.Proofs.L2.Lift
/-!
# L2 `lfu_cache` / `lfuda_cache`: no undefined behaviour on any history, refinement of the L1 models

The second half of what `Slot.lean` does in one file (see its header), after `CntGood.lean`: what the abstraction
makes of each explicit state, then one simulation per L1 model.  `Lfu` and `Lfuda` are two models, so the specs and
the `sim_*` lemmas come twice (`…_lfu`, `…_lfuda`); what they share is stated with the flag a variable.

The aging walk of lfuda is matched exactly, not up to permutation: one turn of `ageLoop` is `Lfuda.ageOne` on
the entries (`entsOf_aged`), so the walk is the fold of the L1 model by construction (`ageLoop_spec`), and
the nodes walked over end up reversed at the young end as the L1 age list says (`dynAge_spec`).
-/
namespace Verif.L2.Cnt
open Verif

def keyOf (s : CState) (nd : Nat) : Key :=
  ((s.keyed.find? (fun n => n.slot == nd)).map (·.key)).getD 0

/-- the nodes before `m_open_list_end` -/
def usedPrefix (s : CState) : List Nat :=
  match s.openEnd with
  | none => s.order
  | some e => s.order.takeWhile (fun x => !(x == e))

/-- entries in multimap order -/
def entsOf (s : CState) : List Entry :=
  s.lfuq.map (fun q => { key := keyOf s q.node, val := (s.nodes.getD q.node default).val, cnt := q.cnt,
                         stamp := if s.da then (s.nodes.getD q.node default).stamp else 0 })

def absLfu (s : CState) : LfuState := { cap := s.order.length, ents := entsOf s }

def absLfuda (s : CState) : LfudaState :=
  { cap := s.order.length, tick := s.tick, num := s.num, den := s.den, ents := entsOf s,
    age := (usedPrefix s).map (keyOf s) }

/-! ## the abstraction of a good state -/

def ent (s : CState) (q : QNode) : Entry :=
  { key := keyOf s q.node, val := (s.nodes.getD q.node default).val, cnt := q.cnt,
    stamp := if s.da then (s.nodes.getD q.node default).stamp else 0 }

theorem entsOf_eq (s : CState) : entsOf s = s.lfuq.map (ent s) := rfl

theorem ent_read {s : CState} (q : QNode) {x : CNode} (hx : s.nodes.getD q.node default = x) :
    ent s q = { key := keyOf s q.node, val := x.val, cnt := q.cnt, stamp := if s.da then x.stamp else 0 } := by
  subst hx; rfl

theorem ent_congr {s s' : CState} {q : QNode} (hk : keyOf s' q.node = keyOf s q.node) (hd : s'.da = s.da)
    (hn : s'.nodes.getD q.node default = s.nodes.getD q.node default) : ent s' q = ent s q := by
  simp only [ent, hk, hd, hn]

section
variable {cap : Nat} {s : CState} {u f : List Nat}

theorem usedPrefix_eq (h : Good cap s u f) : usedPrefix s = u :=
  h.part.usedPrefix

theorem absLfu_eq (h : Good cap s u f) : absLfu s = { cap := cap, ents := entsOf s } := by
  unfold absLfu; rw [h.order_len]

theorem absLfuda_eq (h : Good cap s u f) :
    absLfuda s = { cap := cap, tick := s.tick, num := s.num, den := s.den, ents := entsOf s,
                   age := u.map (keyOf s) } := by
  unfold absLfuda; rw [h.order_len, usedPrefix_eq h]

theorem keyOf_node (h : Good cap s u f) {n : HNode} (hn : n ∈ s.keyed) : keyOf s n.slot = n.key :=
  h.kix.keyAt_node hn

theorem keyOf_qnode (h : Good cap s u f) {n : HNode} (hn : n ∈ s.keyed) {q : QNode} (hqn : q.node = n.slot) :
    keyOf s q.node = n.key :=
  (congrArg (keyOf s) hqn).trans (keyOf_node h hn)

theorem getE_ents (h : Good cap s u f) {q : QNode} (hq : q ∈ s.lfuq) :
    getE (entsOf s) (keyOf s q.node) = some (ent s q) :=
  h.kix.getE_map_some QNode.node h.node_mem (fun _ _ => rfl) hq (fun _ hb e => pairwise_inj h.qnodes hb hq e)

theorem resident (h : Good cap s u f) {k : Key} {n : HNode} (hf : findNode s k = some n) :
    n ∈ s.keyed ∧ ∃ q ∈ s.lfuq, q.node = n.slot ∧ keyOf s q.node = k ∧
      getE (entsOf s) k = some (ent s q) := by
  obtain ⟨hn, hk⟩ := find?_key_some hf
  obtain ⟨q, hq, hqn⟩ := h.mem_node n.slot (h.slot_mem n hn)
  have hkey : keyOf s q.node = k := by rw [hqn, keyOf_node h hn, hk]
  exact ⟨hn, q, hq, hqn, hkey, hkey ▸ getE_ents h hq⟩

theorem absent (h : Good cap s u f) {k : Key} (hf : findNode s k = none) :
    getE (entsOf s) k = none :=
  h.kix.getE_map_none QNode.node h.node_mem (fun _ _ => rfl) (find?_key_none hf)

theorem length_entsOf (h : Good cap s u f) : (entsOf s).length = u.length := by
  rw [entsOf_eq, List.length_map, h.lfuq_len]

/-- `s'`: the entries that remain may be read in the state after the update, which differs from `s` at the node of
`q` only -/
theorem delE_ents (h : Good cap s u f) {q : QNode} (hq : q ∈ s.lfuq) (s' : CState)
    (hne : ∀ x ∈ s.lfuq, x.node ≠ q.node → ent s' x = ent s x) :
    delE (entsOf s) (keyOf s q.node) = (s.lfuq.filter (fun x => !(x.id == q.id))).map (ent s') := by
  rw [h.qix.filter_id hq]
  exact h.kix.filter_key Entry.key QNode.node h.node_mem (fun _ _ => rfl) (h.node_mem q hq) hne

theorem filter_keys (h : Good cap s u f) {l : List Nat} (hl : ∀ x ∈ l, x ∈ u) {nd : Nat} (hnd : nd ∈ u) :
    (l.map (keyOf s)).filter (fun k => !decide (k = keyOf s nd))
      = (l.filter (fun x => !(x == nd))).map (keyOf s) :=
  h.kix.filter_key id id hl (fun _ _ => rfl) hnd (fun _ _ _ => rfl)

/-! ## what the abstraction makes of the explicit states

### re-filing -/

theorem map_fileQ {g : QNode → Entry} (hg : ∀ q, (g q).cnt = q.cnt) (l : List QNode) (x : QNode) :
    (fileQ l x).map g = fileCnt (l.map g) (g x) := by
  rw [fileQ_eq, fileCnt_eq]
  exact file_map g (fun a _ => by rw [hg, hg]) x

theorem entsOf_reState (h : Good cap s u f) {q : QNode} (hq : q ∈ s.lfuq) (c : Nat) (ord : List Nat)
    (v : Val) (st : Time) :
    entsOf (reState s q.node q.id c ord v st) =
      fileCnt (delE (entsOf s) (keyOf s q.node))
        { key := keyOf s q.node, val := v, cnt := c, stamp := if s.da then st else 0 } := by
  rw [entsOf_eq]
  show (fileQ _ _).map _ = _
  rw [map_fileQ (fun _ => rfl), delE_ents h hq (reState s q.node q.id c ord v st) fun x _ e =>
    ent_congr rfl rfl (reState_getD_ne s e q.id c ord v st)]
  exact congrArg (fileCnt _)
    (ent_read ⟨s.nextQ, c, q.node⟩ (reState_getD_self (h.node_lt hq) q.id c ord v st))

theorem reState_read (h : Good cap s u f) {q : QNode} (hq : q ∈ s.lfuq) {u' : List Nat} (hp : u'.Perm u)
    (c : Nat) (v : Val) (st : Time) :
    cntOf (reState s q.node q.id c (u' ++ f) v st) q.node = some c ∧
      ((reState s q.node q.id c (u' ++ f) v st).nodes.getD q.node default).val = v := by
  have hlt := h.node_lt hq
  have hg := h.reState hq hp c v st
  have hm : (⟨s.nextQ, c, q.node⟩ : QNode) ∈ (reState s q.node q.id c (u' ++ f) v st).lfuq :=
    (fileQ_perm _ _).mem_iff.mpr (List.mem_cons_self ..)
  exact ⟨hg.cntOf hm, congrArg CNode.val (reState_getD_self hlt q.id c (u' ++ f) v st)⟩

/-! ### erasing -/

theorem entsOf_erased (h : Good cap s u f) {n : HNode} (hn : n ∈ s.keyed) {q : QNode} (hq : q ∈ s.lfuq)
    (hqn : q.node = n.slot) :
    entsOf (erased s u f n q) = delE (entsOf s) n.key := by
  rw [← keyOf_qnode h hn hqn, delE_ents h hq (erased s u f n q) fun x hx e =>
    ent_congr (h.kix.keyAt_erase hn (h.node_mem x hx) (hqn ▸ e)) rfl rfl]
  rfl

theorem entsOf_erased_head (h : Good cap s u f) {n : HNode} (hn : n ∈ s.keyed) {q : QNode} {rest : List QNode}
    (hl : s.lfuq = q :: rest) (hqn : q.node = n.slot) :
    entsOf (erased s u f n q) = (entsOf s).tail := by
  have hq : q ∈ s.lfuq := hl ▸ List.mem_cons_self ..
  rw [entsOf_erased h hn hq hqn, ← keyOf_qnode h hn hqn, delE_ents h hq s fun _ _ _ => rfl, entsOf_eq, hl,
    filter_label_head (g := QNode.id) (hl ▸ h.qids)]
  rfl

/-! ### inserting -/

theorem full_iff (h : Good cap s u f) : s.used ≥ s.order.length ↔ u.length ≥ cap := by
  rw [h.used, h.order_len]

theorem free_cons (h : Good cap s u f) (hfull : ¬ u.length ≥ cap) : ∃ nd r, f = nd :: r :=
  h.part.not_full (h.used ▸ hfull)

theorem keyOf_pushed_new {nd : Nat} {r : List Nat} (h : Good cap s u (nd :: r)) (now : Time) (k : Key) (v : Val) :
    keyOf (pushed s now k v nd) nd = k :=
  h.kix.keyAt_push_new h.part.head_not_mem

theorem entsOf_pushed {nd : Nat} {r : List Nat} (h : Good cap s u (nd :: r)) (now : Time) (k : Key) (v : Val) :
    entsOf (pushed s now k v nd) =
      fileCnt (entsOf s) { key := k, val := v, cnt := 1, stamp := if s.da then now else 0 } := by
  have hidx : nd ∉ u := h.part.head_not_mem
  rw [entsOf_eq]
  show (fileQ _ _).map _ = _
  rw [map_fileQ (fun _ => rfl), entsOf_eq]
  congr 1
  · apply List.map_congr_left
    intro x hx
    have hxu := h.node_mem x hx
    have e : x.node ≠ nd := fun e => hidx (e ▸ hxu)
    exact ent_congr (h.kix.keyAt_push_old hxu) rfl (pushed_getD_ne s e now k v)
  · rw [ent_read ⟨s.nextQ, 1, nd⟩ (pushed_getD_self h.head_lt now k v), keyOf_pushed_new h now k v]
    rfl

end

/-! ## the single-key primitives, case by case -/

section
variable {cap : Nat} {s : CState} {u f : List Nat}

theorem insert1_none (hub : s.ub = false) {k : Key} (hf : findNode s k = none) (now : Time) (v : Val) (a : Allow) :
    insert1 s now k v a = if a.ins then (doInsert s now k v, true) else (s, false) := by
  simp only [insert1, hub, hf, Bool.false_eq_true, if_false]

theorem insert1_some (hub : s.ub = false) {k : Key} {n : HNode} (hf : findNode s k = some n)
    (hlt : n.slot < s.nodes.length) (now : Time) (v : Val) (a : Allow) :
    insert1 s now k v a =
      if a.upd then
        (doAccess { s with nodes := s.nodes.set n.slot { s.nodes.getD n.slot default with val := v } } n.slot now, true)
      else (s, false) := by
  simp only [insert1, hub, hf, Bool.false_eq_true, if_false, Nat.not_le.mpr hlt]

theorem find1_none (hub : s.ub = false) {k : Key} (hf : findNode s k = none) (now : Time) (peek : Bool) :
    find1 s now k peek = (s, none) := by
  simp only [find1, hub, hf, Bool.false_eq_true, if_false]

theorem find1_some (h : Good cap s u f) {k : Key} {n : HNode} (hf : findNode s k = some n) {q : QNode}
    (hq : q ∈ s.lfuq) (hqn : q.node = n.slot) (now : Time) (peek : Bool) :
    find1 s now k peek =
      if peek then (s, some ((s.nodes.getD q.node default).val, q.cnt))
      else (doAccess s q.node now, some ((s.nodes.getD q.node default).val, q.cnt + 1)) := by
  have hlt : ¬ q.node ≥ s.nodes.length := Nat.not_le.mpr (h.node_lt hq)
  simp only [find1, h.ub, hf, Bool.false_eq_true, if_false, ← hqn, hlt]
  cases peek
  · obtain ⟨u', st, hp, he⟩ := doAccess_reState h hq now
    obtain ⟨hc, hv⟩ := reState_read h hq hp (q.cnt + 1) (s.nodes.getD q.node default).val st
    simp only [Bool.false_eq_true, if_false, he, (h.reState hq hp _ _ _).ub, hc, hv]
  · simp only [if_true, h.ub, Bool.false_eq_true, if_false, h.cntOf hq]

theorem erase1_none (hub : s.ub = false) {k : Key} (hf : findNode s k = none) : erase1 s k = (s, false) := by
  simp only [erase1, hub, hf, Bool.false_eq_true, if_false]

theorem erase1_some (hub : s.ub = false) {k : Key} {n : HNode} (hf : findNode s k = some n) :
    erase1 s k = (doErase s n.slot, true) := by
  simp only [erase1, hub, hf, Bool.false_eq_true, if_false]

end

/-! ## lfu: one-step simulation -/

def RelLfu (cap : Nat) (s : CState) (t : LfuState) : Prop :=
  (s.da = false ∧ ∃ u f, Good cap s u f) ∧ absLfu s = t

section
variable {cap : Nat} {s : CState} {u f : List Nat}

theorem relLfu_self (h : Good cap s u f) (hda : s.da = false) : RelLfu cap s (absLfu s) := ⟨⟨hda, u, f, h⟩, rfl⟩

/-- the stamp is not read -/
theorem reState_spec_lfu (h : Good cap s u f) (hda : s.da = false) {q : QNode} (hq : q ∈ s.lfuq) (v : Val)
    (st : Time) :
    RelLfu cap (reState s q.node q.id (q.cnt + 1) (u ++ f) v st)
      { absLfu s with ents := Lfu.access (entsOf s) { ent s q with val := v } } := by
  have hg := h.reState hq (List.Perm.refl u) (q.cnt + 1) v st
  refine ⟨⟨hda, _, _, hg⟩, ?_⟩
  rw [absLfu_eq hg, absLfu_eq h, entsOf_reState h hq]
  simp only [Lfu.access, ent, hda, Bool.false_eq_true, if_false]

theorem push_spec_lfu {nd : Nat} {r : List Nat} (h : Good cap s u (nd :: r)) (hda : s.da = false) {k : Key}
    (hk : ∀ n ∈ s.keyed, n.key ≠ k) (now : Time) (v : Val) :
    RelLfu cap (pushed s now k v nd) { cap := cap, ents := fileCnt (entsOf s) { key := k, val := v, cnt := 1 } } := by
  have hg := h.push hk now v
  refine ⟨⟨hda, _, _, hg⟩, ?_⟩
  rw [absLfu_eq hg, entsOf_pushed h now k v, hda]
  rfl

theorem doInsert_spec_lfu (h : Good cap s u f) (hda : s.da = false) {k : Key} (hk : ∀ n ∈ s.keyed, n.key ≠ k)
    (now : Time) (v : Val) :
    RelLfu cap (doInsert s now k v)
      { cap := (absLfu s).cap,
        ents := fileCnt (if (absLfu s).ents.length ≥ (absLfu s).cap then (absLfu s).ents.tail else (absLfu s).ents)
                  { key := k, val := v, cnt := 1 } } := by
  rw [absLfu_eq h, length_entsOf h]
  by_cases hfull : u.length ≥ cap
  · have hpos : 0 < u.length := Nat.lt_of_lt_of_le h.cpos hfull
    obtain ⟨n, hn, q, _, hl, hq, hqn, hpr⟩ := doPrune_eq h now (by rw [hda]; rfl) (h.used ▸ hpos) hpos
    rw [doInsert_eq (h.erase hn hq hqn) ((if_pos ((full_iff h).mpr hfull)).trans hpr) k v, if_pos hfull,
      ← entsOf_erased_head h hn hl hqn]
    exact push_spec_lfu (h.erase hn hq hqn) hda (fun m hm => hk m (List.mem_filter.mp hm).1) now v
  · obtain ⟨nd, r, rfl⟩ := free_cons h hfull
    rw [doInsert_eq h (if_neg fun hh => hfull ((full_iff h).mp hh)) k v, if_neg hfull]
    exact push_spec_lfu h hda hk now v

theorem sim_insert1_lfu (h : Good cap s u f) (hda : s.da = false) (now : Time) (k : Key) (v : Val) (a : Allow) :
    (insert1 s now k v a).2 = (Lfu.insert1 (absLfu s) k v a).2 ∧
    RelLfu cap (insert1 s now k v a).1 (Lfu.insert1 (absLfu s) k v a).1 := by
  cases hf : findNode s k with
  | none =>
    rw [insert1_none h.ub hf, Lfu.insert1_none (t := absLfu s) (absent h hf)]
    cases a.ins
    · exact ⟨rfl, relLfu_self h hda⟩
    · exact ⟨rfl, doInsert_spec_lfu h hda (find?_key_none hf) now v⟩
  | some n =>
    obtain ⟨hn, q, hq, hqn, hkey, hget⟩ := resident h hf
    rw [insert1_some h.ub hf (h.slot_lt hn), Lfu.insert1_some (t := absLfu s) hget, ← hqn]
    cases a.upd
    · exact ⟨rfl, relLfu_self h hda⟩
    · rw [if_pos rfl, if_pos rfl, doAccess_setVal h hq v now, hda, if_neg Bool.false_ne_true,
        if_neg Bool.false_ne_true]
      exact ⟨rfl, reState_spec_lfu h hda hq v _⟩

theorem sim_find1_lfu (h : Good cap s u f) (hda : s.da = false) (now : Time) (k : Key) (peek : Bool) :
    (find1 s now k peek).2 = (Lfu.find1 (absLfu s) k peek).2 ∧
    RelLfu cap (find1 s now k peek).1 (Lfu.find1 (absLfu s) k peek).1 := by
  cases hf : findNode s k with
  | none =>
    rw [find1_none h.ub hf, Lfu.find1_none (t := absLfu s) (absent h hf)]
    exact ⟨rfl, relLfu_self h hda⟩
  | some n =>
    obtain ⟨hn, q, hq, hqn, hkey, hget⟩ := resident h hf
    rw [find1_some h hf hq hqn, Lfu.find1_some (t := absLfu s) hget]
    cases peek
    · rw [if_neg Bool.false_ne_true, if_neg Bool.false_ne_true, doAccess_eq h hq now, hda,
        if_neg Bool.false_ne_true, if_neg Bool.false_ne_true]
      exact ⟨rfl, reState_spec_lfu h hda hq _ _⟩
    · exact ⟨rfl, relLfu_self h hda⟩

theorem sim_erase1_lfu (h : Good cap s u f) (hda : s.da = false) (k : Key) :
    (erase1 s k).2 = (Lfu.erase1 (absLfu s) k).2 ∧ RelLfu cap (erase1 s k).1 (Lfu.erase1 (absLfu s) k).1 := by
  cases hf : findNode s k with
  | none =>
    rw [erase1_none h.ub hf, Lfu.erase1_none (t := absLfu s) (absent h hf)]
    exact ⟨rfl, relLfu_self h hda⟩
  | some n =>
    obtain ⟨hn, q, hq, hqn, hkey, hget⟩ := resident h hf
    rw [erase1_some h.ub hf, Lfu.erase1_some (t := absLfu s) hget, doErase_eq h hn hq hqn]
    have hg := h.erase hn hq hqn
    refine ⟨rfl, ⟨hda, _, _, hg⟩, ?_⟩
    rw [absLfu_eq hg, absLfu_eq h, entsOf_erased h hn hq hqn, ← keyOf_qnode h hn hqn, hkey]

end

theorem sim_lfu (cap : Nat) : Sim core Lfu.core (RelLfu cap) where
  pre _ _ _ hr := hr
  insert1 := by
    rintro s _ now k v a ttl ⟨⟨hda, u, f, h⟩, rfl⟩
    exact sim_insert1_lfu h hda now k v a
  find1 := by
    rintro s _ now k peek ⟨⟨hda, u, f, h⟩, rfl⟩
    exact sim_find1_lfu h hda now k peek
  erase1 := by
    rintro s _ k ⟨⟨hda, u, f, h⟩, rfl⟩
    exact sim_erase1_lfu h hda k
  noClearC := rfl
  noClearD := rfl
  clean _ _ _ hr := ⟨rfl, hr⟩
  age := by
    rintro s _ now ⟨⟨hda, hg⟩, rfl⟩
    rw [show core.age s now = (s, 0) from if_neg (ne_true_of_eq_false hda)]
    exact ⟨rfl, ⟨hda, hg⟩, rfl⟩
  updateTtl _ _ _ hr := hr
  size := by
    rintro s _ ⟨⟨_, u, f, h⟩, rfl⟩
    exact h.used.trans (length_entsOf h).symm
  capacity _ _ hr := congrArg LfuState.cap hr.2

/-! ## lfuda: the aging walk -/

/-- what re-filing and the aging walk leave alone: the parameters and the hash index, so that `keyOf` may be read in
either state -/
structure Frame (s s' : CState) : Prop where
  da : s'.da = s.da
  tick : s'.tick = s.tick
  num : s'.num = s.num
  den : s'.den = s.den
  keyed : s'.keyed = s.keyed

theorem Frame.refl (s : CState) : Frame s s := ⟨rfl, rfl, rfl, rfl, rfl⟩

theorem Frame.trans {a b c : CState} (h1 : Frame a b) (h2 : Frame b c) : Frame a c :=
  ⟨h2.da.trans h1.da, h2.tick.trans h1.tick, h2.num.trans h1.num, h2.den.trans h1.den,
    h2.keyed.trans h1.keyed⟩

theorem Frame.keyOf {s s' : CState} (h : Frame s s') : keyOf s' = keyOf s :=
  funext fun x => by unfold Cnt.keyOf; rw [h.keyed]

theorem frame_reState (s : CState) (nd qid c : Nat) (ord : List Nat) (v : Val) (st : Time) :
    Frame s (reState s nd qid c ord v st) :=
  ⟨rfl, rfl, rfl, rfl, rfl⟩

section
variable {cap : Nat} {s : CState} {u f : List Nat}

theorem entsOf_aged (h : Good cap s u f) (hda : s.da = true) {q : QNode} (hq : q ∈ s.lfuq) (ord : List Nat)
    (now : Time) :
    entsOf (aged s q ord now) = Lfuda.ageOne now s.num s.den (entsOf s) (keyOf s q.node) := by
  unfold aged
  rw [entsOf_reState h hq, Lfuda.ageOne, getE_ents h hq]
  simp only [ent, hda, if_true]

end

/-- The walk from a state whose in-use nodes are `w ++ p`: `p` are the nodes aged so far (stamped `now`, so
the walk stops if it comes round to them).  `P` says which nodes of `w` are idle; aging one node does not
change that for the others, so the walk takes the longest prefix of `w` on which `P` holds and leaves it
reversed in front of `p`. -/
theorem ageLoop_spec {cap : Nat} {f : List Nat} (now : Time) (P : Nat → Bool) :
    ∀ (w : List Nat) (s : CState) (p : List Nat) (daLast : Option (Option Nat)) (n fuel : Nat),
      Good cap s (w ++ p) f → s.da = true → daLast.getD s.openEnd = (p ++ f).head? →
      (∀ y ∈ w, P y = decide ((s.nodes.getD y default).stamp + s.tick < now)) →
      (∀ y ∈ p, (s.nodes.getD y default).stamp = now) → w.length ≤ fuel →
      ∃ s', ageLoop now fuel s daLast n = (s', n + (w.takeWhile P).length) ∧
        Good cap s' (w.dropWhile P ++ ((w.takeWhile P).reverse ++ p)) f ∧ Frame s s' ∧
        entsOf s' = ((w.takeWhile P).map (keyOf s)).foldl (Lfuda.ageOne now s.num s.den) (entsOf s) := by
  intro w
  induction w with
  | nil =>
    intro s p daLast n fuel h hda htgt hP hst hfuel
    exact ⟨s, ageLoop_stop h now (fun x hx => by
      rw [hst x (List.mem_of_mem_head? hx)]; exact Nat.not_lt.mpr (Nat.le_add_right _ _)) .., h, Frame.refl s, rfl⟩
  | cons x w ih =>
    intro s p daLast n fuel h hda htgt hP hst hfuel
    obtain ⟨q, hq, rfl⟩ := h.mem_node x (List.mem_append_left _ (List.mem_cons_self ..))
    have hPx := hP q.node (List.mem_cons_self ..)
    by_cases hidle : (s.nodes.getD q.node default).stamp + s.tick < now
    · rw [decide_eq_true hidle] at hPx
      cases fuel with
      | zero => exact absurd hfuel (Nat.not_succ_le_zero _)
      | succ fuel =>
        have hqw : q.node ∉ w ++ p := (List.nodup_cons.mp h.nodup_u).1
        have hlt := h.node_lt hq
        -- the aged state meets the hypotheses again: the rest of `w` is untouched, `q.node :: p` is stamped `now`
        obtain ⟨s', i1, i2, i3, i4⟩ := ih (aged s q ((w ++ q.node :: p) ++ f) now) (q.node :: p)
          (some (some q.node)) (n + 1) fuel (h.reState hq List.perm_middle _ _ _) hda rfl
          (fun y hy => by
            rw [aged, reState_getD_ne s fun (e : y = q.node) => hqw (e ▸ List.mem_append_left _ hy)]
            exact hP y (List.mem_cons_of_mem _ hy))
          (fun y hy => by
            rcases List.mem_cons.mp hy with rfl | hy
            · rw [aged, reState_getD_self hlt]
            · rw [aged, reState_getD_ne s fun (e : y = q.node) => hqw (e ▸ List.mem_append_right _ hy)]
              exact hst y hy)
          (Nat.le_of_succ_le_succ hfuel)
        rw [List.takeWhile_cons_of_pos hPx, List.dropWhile_cons_of_pos hPx]
        refine ⟨s', ?_, ?_, (frame_reState s ..).trans i3, ?_⟩
        · rw [ageLoop_step h hq now htgt hidle fuel n, i1, List.length_cons, Nat.add_right_comm n 1]
          rfl
        · rw [List.reverse_cons, List.append_assoc _ [q.node] p]
          exact i2
        · rw [i4, entsOf_aged h hda hq]
          rfl
    · rw [decide_eq_false hidle] at hPx
      rw [List.takeWhile_cons_of_neg (Bool.eq_false_iff.mp hPx), List.dropWhile_cons_of_neg (Bool.eq_false_iff.mp hPx)]
      exact ⟨s, ageLoop_stop h now (fun y hy => by cases hy; exact hidle) .., h, Frame.refl s, rfl⟩

section
variable {cap : Nat} {s : CState} {u f : List Nat}

theorem idle_eq (h : Good cap s u f) (hda : s.da = true) (now : Time) {x : Nat} (hx : x ∈ u) :
    Lfuda.idle (absLfuda s) now (keyOf s x) = decide ((s.nodes.getD x default).stamp + s.tick < now) := by
  obtain ⟨q, hq, rfl⟩ := h.mem_node x hx
  unfold Lfuda.idle
  rw [show (absLfuda s).ents = entsOf s from rfl, getE_ents h hq]
  simp only [ent, hda, if_true]
  rfl

theorem dynAge_spec (h : Good cap s u f) (hda : s.da = true) (now : Time) :
    (dynAge s now).2 = (Lfuda.dynAge (absLfuda s) now).2 ∧
    absLfuda (dynAge s now).1 = (Lfuda.dynAge (absLfuda s) now).1 ∧
    Frame s (dynAge s now).1 ∧ ∃ u', Good cap (dynAge s now).1 u' f ∧ u'.length = u.length := by
  -- the whole walk: `P` is idleness as the L1 model reads it, `w = u`, nothing aged yet (`p = []`, `daLast = none`)
  have key := ageLoop_spec now (Lfuda.idle (absLfuda s) now ∘ keyOf s) u s [] none 0
    (s.order.length + 1) (by rw [List.append_nil]; exact h) hda h.oend (fun y hy => idle_eq h hda now hy)
    (fun _ hy => (List.not_mem_nil hy).elim) (by rw [h.order_len, ← h.len]; exact Nat.le_succ_of_le (Nat.le_add_right _ _))
  rw [List.append_nil, absLfuda_eq h] at key
  obtain ⟨s', i1, i2, i3, i4⟩ := key
  rw [show dynAge s now = ageLoop now (s.order.length + 1) s none 0 from if_neg h.not_ub, i1, absLfuda_eq h]
  refine ⟨?_, ?_, i3, _, i2, ?_⟩
  · simp only [Lfuda.dynAge]
    rw [List.takeWhile_map, List.length_map, Nat.zero_add]
  · rw [absLfuda_eq i2]
    simp only [Lfuda.dynAge]
    rw [List.takeWhile_map, List.dropWhile_map, i3.tick, i3.num, i3.den, i4, i3.keyOf, List.map_append,
      List.map_reverse]
  · rw [List.length_append, List.length_reverse, Nat.add_comm, ← List.length_append,
      List.takeWhile_append_dropWhile]

end

/-! ## lfuda: what the abstraction makes of the explicit states -/

def RelLfuda (cap : Nat) (s : CState) (t : LfudaState) : Prop :=
  (s.da = true ∧ ∃ u f, Good cap s u f) ∧ absLfuda s = t

section
variable {cap : Nat} {s : CState} {u f : List Nat}

theorem relLfuda_self (h : Good cap s u f) (hda : s.da = true) : RelLfuda cap s (absLfuda s) :=
  ⟨⟨hda, u, f, h⟩, rfl⟩

theorem absLfuda_erased (h : Good cap s u f) {n : HNode} (hn : n ∈ s.keyed) {q : QNode} (hq : q ∈ s.lfuq)
    (hqn : q.node = n.slot) :
    absLfuda (erased s u f n q) = Lfuda.removeKey (absLfuda s) n.key := by
  have hg := h.erase hn hq hqn
  have hu := h.slot_mem n hn
  rw [absLfuda_eq hg, absLfuda_eq h]
  simp only [Lfuda.removeKey]
  rw [entsOf_erased h hn hq hqn, ← keyOf_node h hn, filter_keys h (fun x hx => hx) hu]
  exact congrArg (LfudaState.mk _ _ _ _ _) (List.map_congr_left fun x hx =>
    h.kix.keyAt_erase hn (mem_filter_ne.mp hx).1 (mem_filter_ne.mp hx).2)

theorem push_spec_lfuda {nd : Nat} {r : List Nat} (h : Good cap s u (nd :: r)) (hda : s.da = true) {k : Key}
    (hk : ∀ n ∈ s.keyed, n.key ≠ k) (now : Time) (v : Val) :
    RelLfuda cap (pushed s now k v nd) (Lfuda.pushed (absLfuda s) now k v) := by
  have hg := h.push hk now v
  refine ⟨⟨hda, _, _, hg⟩, ?_⟩
  rw [absLfuda_eq hg, absLfuda_eq h]
  simp only [Lfuda.pushed]
  rw [entsOf_pushed h now k v, hda, List.map_append]
  have : u.map (keyOf (pushed s now k v nd)) = u.map (keyOf s) :=
    List.map_congr_left (fun x hx => h.kix.keyAt_push_old hx)
  rw [this]
  simp only [List.map_cons, List.map_nil, keyOf_pushed_new h now k v, if_true]
  rfl

theorem reState_spec_lfuda (h : Good cap s u f) (hda : s.da = true) {q : QNode} (hq : q ∈ s.lfuq) (v : Val)
    (now : Time) :
    RelLfuda cap (reState s q.node q.id (q.cnt + 1) ((u.filter (fun x => !(x == q.node)) ++ [q.node]) ++ f) v now)
      (Lfuda.access (absLfuda s) { ent s q with val := v } now) := by
  have hnd := h.node_mem q hq
  have hg := h.reState hq (LList.filter_snoc_perm h.nodup_u hnd) (q.cnt + 1) v now
  refine ⟨⟨hda, _, _, hg⟩, ?_⟩
  rw [absLfuda_eq hg, absLfuda_eq h]
  simp only [Lfuda.access]
  rw [entsOf_reState h hq, hda, (frame_reState s ..).keyOf, List.map_append, ← filter_keys h (fun x hx => hx) hnd]
  rfl

theorem doPrune_spec_lfuda (h : Good cap s u f) (hda : s.da = true) (hpos : 0 < u.length) (now : Time) :
    absLfuda (doPrune s now) = Lfuda.prune (absLfuda s) now ∧ (doPrune s now).da = true ∧
      (∀ n ∈ (doPrune s now).keyed, n ∈ s.keyed) ∧
      ∃ u' nd, Good cap (doPrune s now) u' (nd :: f) := by
  obtain ⟨_, d2, d3, u1, g1, hlen⟩ := dynAge_spec h hda now
  obtain ⟨n, hn, q, rest, hl, hq, hqn, hpr⟩ :=
    doPrune_eq g1 now (by rw [hda]; rfl) (h.used ▸ hpos) (hlen ▸ hpos)
  rw [hpr]
  refine ⟨?_, d3.da.trans hda, fun m hm => d3.keyed ▸ (List.mem_filter.mp hm).1, _, _, g1.erase hn hq hqn⟩
  have hents : (Lfuda.dynAge (absLfuda s) now).1.ents = ent (dynAge s now).1 q :: rest.map (ent (dynAge s now).1) :=
    d2 ▸ congrArg (List.map _) hl
  rw [absLfuda_erased g1 hn hq hqn, ← keyOf_qnode g1 hn hqn, Lfuda.prune_cons hents, d2]
  rfl

theorem doInsert_spec_lfuda (h : Good cap s u f) (hda : s.da = true) {k : Key} (hk : ∀ n ∈ s.keyed, n.key ≠ k)
    (now : Time) (v : Val) :
    RelLfuda cap (doInsert s now k v)
      (Lfuda.pushed (if (absLfuda s).ents.length ≥ (absLfuda s).cap then Lfuda.prune (absLfuda s) now else absLfuda s)
        now k v) := by
  rw [show (absLfuda s).ents.length = u.length from length_entsOf h, show (absLfuda s).cap = cap from h.order_len]
  by_cases hfull : u.length ≥ cap
  · obtain ⟨p1, p2, p3, u1, nd, g1⟩ := doPrune_spec_lfuda h hda (Nat.lt_of_lt_of_le h.cpos hfull) now
    have hk1 : ∀ m ∈ (doPrune s now).keyed, m.key ≠ k := fun m hm => hk m (p3 m hm)
    rw [doInsert_eq g1 (if_pos ((full_iff h).mpr hfull)) k v, if_pos hfull, ← p1]
    exact push_spec_lfuda g1 p2 hk1 now v
  · obtain ⟨nd, r, rfl⟩ := free_cons h hfull
    rw [doInsert_eq h (if_neg fun hh => hfull ((full_iff h).mp hh)) k v, if_neg hfull]
    exact push_spec_lfuda h hda hk now v

end

/-! ## lfuda: one-step simulation -/

section
variable {cap : Nat} {s : CState} {u f : List Nat}

theorem sim_insert1_lfuda (h : Good cap s u f) (hda : s.da = true) (now : Time) (k : Key) (v : Val) (a : Allow) :
    (insert1 s now k v a).2 = (Lfuda.insert1 (absLfuda s) now k v a).2 ∧
    RelLfuda cap (insert1 s now k v a).1 (Lfuda.insert1 (absLfuda s) now k v a).1 := by
  cases hf : findNode s k with
  | none =>
    rw [insert1_none h.ub hf, Lfuda.insert1_none (t := absLfuda s) (absent h hf)]
    cases a.ins
    · exact ⟨rfl, relLfuda_self h hda⟩
    · exact ⟨rfl, doInsert_spec_lfuda h hda (find?_key_none hf) now v⟩
  | some n =>
    obtain ⟨hn, q, hq, hqn, hkey, hget⟩ := resident h hf
    rw [insert1_some h.ub hf (h.slot_lt hn), Lfuda.insert1_some (t := absLfuda s) hget, ← hqn]
    cases a.upd
    · exact ⟨rfl, relLfuda_self h hda⟩
    · rw [if_pos rfl, if_pos rfl, doAccess_setVal h hq v now, hda, if_pos rfl, if_pos rfl]
      exact ⟨rfl, reState_spec_lfuda h hda hq v now⟩

theorem sim_find1_lfuda (h : Good cap s u f) (hda : s.da = true) (now : Time) (k : Key) (peek : Bool) :
    (find1 s now k peek).2 = (Lfuda.find1 (absLfuda s) now k peek).2 ∧
    RelLfuda cap (find1 s now k peek).1 (Lfuda.find1 (absLfuda s) now k peek).1 := by
  cases hf : findNode s k with
  | none =>
    rw [find1_none h.ub hf, Lfuda.find1_none (t := absLfuda s) (absent h hf)]
    exact ⟨rfl, relLfuda_self h hda⟩
  | some n =>
    obtain ⟨hn, q, hq, hqn, hkey, hget⟩ := resident h hf
    rw [find1_some h hf hq hqn, Lfuda.find1_some (t := absLfuda s) hget]
    cases peek
    · rw [if_neg Bool.false_ne_true, if_neg Bool.false_ne_true, doAccess_eq h hq now, hda, if_pos rfl, if_pos rfl]
      exact ⟨rfl, reState_spec_lfuda h hda hq _ now⟩
    · exact ⟨rfl, relLfuda_self h hda⟩

theorem sim_erase1_lfuda (h : Good cap s u f) (hda : s.da = true) (k : Key) :
    (erase1 s k).2 = (Lfuda.erase1 (absLfuda s) k).2 ∧
    RelLfuda cap (erase1 s k).1 (Lfuda.erase1 (absLfuda s) k).1 := by
  cases hf : findNode s k with
  | none =>
    rw [erase1_none h.ub hf, Lfuda.erase1_none (t := absLfuda s) (absent h hf)]
    exact ⟨rfl, relLfuda_self h hda⟩
  | some n =>
    obtain ⟨hn, q, hq, hqn, hkey, hget⟩ := resident h hf
    rw [erase1_some h.ub hf, Lfuda.erase1_some (t := absLfuda s) hget, doErase_eq h hn hq hqn]
    refine ⟨rfl, ⟨hda, _, _, h.erase hn hq hqn⟩, ?_⟩
    rw [absLfuda_erased h hn hq hqn, ← keyOf_qnode h hn hqn, hkey]

end

theorem sim_lfuda (cap : Nat) : Sim core Lfuda.core (RelLfuda cap) where
  pre _ _ _ hr := hr
  insert1 := by
    rintro s _ now k v a ttl ⟨⟨hda, u, f, h⟩, rfl⟩
    exact sim_insert1_lfuda h hda now k v a
  find1 := by
    rintro s _ now k peek ⟨⟨hda, u, f, h⟩, rfl⟩
    exact sim_find1_lfuda h hda now k peek
  erase1 := by
    rintro s _ k ⟨⟨hda, u, f, h⟩, rfl⟩
    exact sim_erase1_lfuda h hda k
  noClearC := rfl
  noClearD := rfl
  clean _ _ _ hr := ⟨rfl, hr⟩
  age := by
    rintro s _ now ⟨⟨hda, u, f, h⟩, rfl⟩
    obtain ⟨d1, d2, d3, u', g, _⟩ := dynAge_spec h hda now
    rw [show core.age s now = dynAge s now from if_pos hda]
    exact ⟨d1, ⟨d3.da.trans hda, u', f, g⟩, d2⟩
  updateTtl _ _ _ hr := hr
  size := by
    rintro s _ ⟨⟨_, u, f, h⟩, rfl⟩
    exact h.used.trans (length_entsOf h).symm
  capacity _ _ hr := congrArg LfudaState.cap hr.2

/-! ## every history -/

theorem run_good_lfu {cap : Nat} {s : CState} (h : s.da = false ∧ ∃ u f, Good cap s u f) (ops : List (Time × Op)) :
    ((core.run s ops).1.da = false ∧ ∃ u f, Good cap (core.run s ops).1 u f) ∧
    (core.run s ops).2 = (Lfu.core.run (absLfu s) ops).2 ∧
    absLfu (core.run s ops).1 = (Lfu.core.run (absLfu s) ops).1 :=
  (sim_lfu cap).toSim2.run_abs h ops

theorem run_good_lfuda {cap : Nat} {s : CState} (h : s.da = true ∧ ∃ u f, Good cap s u f) (ops : List (Time × Op)) :
    ((core.run s ops).1.da = true ∧ ∃ u f, Good cap (core.run s ops).1 u f) ∧
    (core.run s ops).2 = (Lfuda.core.run (absLfuda s) ops).2 ∧
    absLfuda (core.run s ops).1 = (Lfuda.core.run (absLfuda s) ops).1 :=
  (sim_lfuda cap).toSim2.run_abs h ops

theorem absLfu_init (cap tickMs num den : Nat) : absLfu (init false cap tickMs num den) = Lfu.init cap := by
  cases cap with
  | zero => rfl
  | succ n => rw [absLfu_eq (good_init false (Nat.succ_pos n) tickMs num den)]; rfl

theorem absLfuda_init (cap tickMs num den : Nat) :
    absLfuda (init true cap tickMs num den) = Lfuda.init cap tickMs num den := by
  cases cap with
  | zero => rfl
  | succ n => rw [absLfuda_eq (good_init true (Nat.succ_pos n) tickMs num den)]; rfl

/-- **C08 (model part), lfu_cache and lfuda_cache**: on no history does the node-level model dereference `end()`,
decrement `begin()`, dereference `begin()` of an empty multimap, index out of range or erase through a stale
iterator. -/
theorem no_ub (da : Bool) (cap tickMs num den : Nat) (hcap : 0 < cap) (ops : List (Time × Op)) :
    (core.run (init da cap tickMs num den) ops).1.ub = false := by
  cases da with
  | false =>
    obtain ⟨⟨_, u, f, h⟩, _⟩ := run_good_lfu ⟨rfl, _, _, good_init false hcap tickMs num den⟩ ops
    exact h.ub
  | true =>
    obtain ⟨⟨_, u, f, h⟩, _⟩ := run_good_lfuda ⟨rfl, _, _, good_init true hcap tickMs num den⟩ ops
    exact h.ub

/-- lfu refines its L1 model whatever tick and ratio the state carries: they are never read -/
theorem refines_lfu (cap tickMs num den : Nat) (hcap : 0 < cap) (ops : List (Time × Op)) :
    (core.run (init false cap tickMs num den) ops).2 = (Lfu.core.run (Lfu.init cap) ops).2 ∧
    absLfu (core.run (init false cap tickMs num den) ops).1 = (Lfu.core.run (Lfu.init cap) ops).1 := by
  have h := run_good_lfu ⟨rfl, _, _, good_init false hcap tickMs num den⟩ ops
  rw [absLfu_init] at h
  exact h.2

/-- lfu: same results as the L1 model on every history; the L2 state abstracts to the L1 state.  `0 1 2` is what
`CheckL2.L2S.init` gives an lfu state for tick and ratio (`Cnt.init false c.cap 0 1 2`). -/
theorem refines_l1_lfu (cap : Nat) (hcap : 0 < cap) (ops : List (Time × Op)) :
    (core.run (init false cap 0 1 2) ops).2 = (Lfu.core.run (Lfu.init cap) ops).2 ∧
    absLfu (core.run (init false cap 0 1 2) ops).1 = (Lfu.core.run (Lfu.init cap) ops).1 :=
  refines_lfu cap 0 1 2 hcap ops

/-- lfuda: likewise (no assumption on the clock readings: the two models walk the same list) -/
theorem refines_l1_lfuda (cap tickMs num den : Nat) (hcap : 0 < cap) (ops : List (Time × Op)) :
    (core.run (init true cap tickMs num den) ops).2 = (Lfuda.core.run (Lfuda.init cap tickMs num den) ops).2 ∧
    absLfuda (core.run (init true cap tickMs num den) ops).1 = (Lfuda.core.run (Lfuda.init cap tickMs num den) ops).1 := by
  have h := run_good_lfuda ⟨rfl, _, _, good_init true hcap tickMs num den⟩ ops
  rw [absLfuda_init] at h
  exact h.2

end Verif.L2.Cnt
