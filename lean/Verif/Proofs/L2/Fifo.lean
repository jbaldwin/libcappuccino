import Verif.Concrete.Node
import Verif.Model.Fifo
import Verif.Proofs.ModelLemmas
import Verif.Proofs.L2.Lift
import Verif.Proofs.L2.Mem
/-!
# L2 `fifo_cache`: no undefined behaviour on any history, refinement of the L1 model

Built as `Slot.lean` (see its header).  `m_fifo_list` keeps the free nodes in front of the nodes in use
(`fr ++ us`); there is no partition iterator, a node is free iff it holds no hash iterator.  Under the invariant
the abstraction is read through `eOf`, which finds the key of an in-use node in the hash index.  A full cache
re-uses its head node: that is the erased state with its free head node re-used (`doInsert_full`), so eviction
needs no lemmas of its own.
-/
namespace Verif.L2.Fifo
open Verif

def entryOf (s : FState) (nd : Nat) : Option Entry :=
  match (s.nodes.getD nd default).keyedIt with
  | none => none
  | some it => (s.keyed.find? (fun n => n.id == it)).map (fun n => { key := n.key, val := (s.nodes.getD nd default).val })

/-- the L1 state: the nodes that hold a key, in list order (earliest inserted first) -/
def abs (s : FState) : FifoState :=
  { cap := s.order.length, ents := s.order.filterMap (entryOf s) }

/-- The fields are those of `Arr` (the list) and `KIx` (the hash index, over `us`) of `Mem.lean`, written out, the
back pointers `its`, and `free`. -/
structure Good (cap : Nat) (s : FState) (fr us : List Nat) : Prop where
  ub : s.ub = false
  cpos : 0 < cap
  nlen : s.nodes.length = cap
  list : s.order = fr ++ us
  nodup : (fr ++ us).Nodup
  len : fr.length + us.length = cap
  lt : ∀ x ∈ fr ++ us, x < cap
  used : s.used = us.length
  ids : s.keyed.Pairwise (fun a b => a.id ≠ b.id)
  idlt : ∀ n ∈ s.keyed, n.id < s.nextNode
  kkeys : s.keyed.Pairwise (fun a b => a.key ≠ b.key)
  kslots : s.keyed.Pairwise (fun a b => a.slot ≠ b.slot)
  slot_mem : ∀ n ∈ s.keyed, n.slot ∈ us
  mem_slot : ∀ x ∈ us, ∃ n ∈ s.keyed, n.slot = x
  its : ∀ n ∈ s.keyed, (s.nodes.getD n.slot default).keyedIt = some n.id
  free : ∀ x ∈ fr, (s.nodes.getD x default).keyedIt = none

def Rel (cap : Nat) (s : FState) (t : FifoState) : Prop :=
  (∃ fr us, Good cap s fr us) ∧ abs s = t

section
variable {cap : Nat} {s : FState} {fr us : List Nat}

theorem Good.nodup_us (h : Good cap s fr us) : us.Nodup := (List.nodup_append.mp h.nodup).2.1

theorem Good.disj (h : Good cap s fr us) {x : Nat} (hf : x ∈ fr) (hu : x ∈ us) : False :=
  (List.nodup_append.mp h.nodup).2.2 x hf x hu rfl

theorem Good.slot_lt (h : Good cap s fr us) {n : HNode} (hn : n ∈ s.keyed) : n.slot < s.nodes.length := by
  rw [h.nlen]; exact h.lt _ (List.mem_append_right _ (h.slot_mem n hn))

theorem Good.head_lt {hd : Nat} {fr' : List Nat} (h : Good cap s (hd :: fr') us) : hd < s.nodes.length := by
  rw [h.nlen]; exact h.lt hd (List.mem_append_left _ (List.mem_cons_self ..))

theorem Good.head_not_mem {hd : Nat} {fr' : List Nat} (h : Good cap s (hd :: fr') us) : hd ∉ us :=
  h.disj (List.mem_cons_self ..)

theorem Good.kix (h : Good cap s fr us) : KIx s.keyed s.nextNode us :=
  ⟨⟨h.ids, h.idlt, h.kslots, h.slot_mem, h.mem_slot⟩, h.kkeys⟩

theorem Good.arr (h : Good cap s fr us) : Arr cap (fr ++ us) :=
  ⟨h.nodup, List.length_append.trans h.len, h.lt⟩

theorem Good.of (hub : s.ub = false) (hc : 0 < cap) (hs : s.nodes.length = cap) (hl : s.order = fr ++ us)
    (a : Arr cap (fr ++ us)) (hu : s.used = us.length) (k : KIx s.keyed s.nextNode us)
    (its : ∀ n ∈ s.keyed, (s.nodes.getD n.slot default).keyedIt = some n.id)
    (free : ∀ x ∈ fr, (s.nodes.getD x default).keyedIt = none) : Good cap s fr us :=
  ⟨hub, hc, hs, hl, a.nodup, List.length_append.symm.trans a.len, a.lt, hu, k.ids, k.idlt, k.kkeys, k.slots,
    k.slot_mem, k.mem_slot, its, free⟩

end

/-! ## the abstraction of a good state -/

def eOf (s : FState) (x : Nat) : Entry :=
  { key := keyAt s.keyed x, val := (s.nodes.getD x default).val }

theorem eOf_congr {s s' : FState} {x : Nat} (hk : keyAt s'.keyed x = keyAt s.keyed x)
    (hn : s'.nodes.getD x default = s.nodes.getD x default) : eOf s' x = eOf s x := by
  unfold eOf; rw [hk, hn]

theorem filterMap_some {α β : Type} {f : α → Option β} {g : α → β} {l : List α}
    (h : ∀ x ∈ l, f x = some (g x)) : l.filterMap f = l.map g := by
  induction l with
  | nil => rfl
  | cons a t ih =>
    rw [List.filterMap_cons, h a (by simp), List.map_cons]
    rw [ih (fun x hx => h x (List.mem_cons_of_mem _ hx))]

section
variable {cap : Nat} {s : FState} {fr us : List Nat}

theorem entryOf_node (h : Good cap s fr us) {n : HNode} (hn : n ∈ s.keyed) :
    entryOf s n.slot = some { key := n.key, val := (s.nodes.getD n.slot default).val } := by
  simp only [entryOf, h.its n hn, h.kix.find_id hn, Option.map_some]

theorem entryOf_used (h : Good cap s fr us) {x : Nat} (hx : x ∈ us) : entryOf s x = some (eOf s x) := by
  obtain ⟨n, hn, rfl⟩ := h.mem_slot x hx
  rw [entryOf_node h hn, eOf, h.kix.keyAt_node hn]

theorem entryOf_free (h : Good cap s fr us) {x : Nat} (hx : x ∈ fr) : entryOf s x = none := by
  simp only [entryOf, h.free x hx]

theorem abs_eq (h : Good cap s fr us) : abs s = { cap := cap, ents := us.map (eOf s) } := by
  unfold abs
  have hl : s.order.length = cap := by rw [h.list, List.length_append]; exact h.len
  rw [hl, h.list, List.filterMap_append, List.filterMap_eq_nil_iff.mpr (fun x hx => entryOf_free h hx),
    filterMap_some (fun x hx => entryOf_used h hx)]
  rfl

theorem abs_ents (h : Good cap s fr us) : (abs s).ents = us.map (eOf s) := by
  rw [abs_eq h]

theorem abs_cap (h : Good cap s fr us) : (abs s).cap = cap := by
  rw [abs_eq h]

theorem key_iff (h : Good cap s fr us) {n : HNode} (hn : n ∈ s.keyed) {x : Nat} (hx : x ∈ us) :
    (eOf s x).key = n.key ↔ x = n.slot := by
  rw [← h.kix.keyAt_node hn]
  exact ⟨h.kix.keyAt_inj hx (h.slot_mem n hn), congrArg (keyAt s.keyed)⟩

theorem getE_abs_some (h : Good cap s fr us) {k : Key} {n : HNode} (hf : findNode s k = some n) :
    getE (abs s).ents k = some (eOf s n.slot) := by
  obtain ⟨hn, rfl⟩ := find?_key_some hf
  rw [abs_ents h, ← h.kix.keyAt_node hn]
  exact h.kix.getE_map_some id (fun _ hx => hx) (fun _ _ => rfl) (h.slot_mem n hn) (fun _ _ e => e)

theorem getE_abs_none (h : Good cap s fr us) {k : Key} (hf : findNode s k = none) :
    getE (abs s).ents k = none := by
  rw [abs_ents h]
  exact h.kix.getE_map_none id (fun _ hx => hx) (fun _ _ => rfl) (find?_key_none hf)

theorem delE_abs (h : Good cap s fr us) {n : HNode} (hn : n ∈ s.keyed) {s' : FState}
    (hne : ∀ x ∈ us, x ≠ n.slot → eOf s' x = eOf s x) :
    delE (abs s).ents n.key = (us.filter (fun x => !(x == n.slot))).map (eOf s') := by
  rw [abs_ents h, ← h.kix.keyAt_node hn]
  exact h.kix.filter_key Entry.key id (fun _ hx => hx) (fun _ _ => rfl) (h.slot_mem n hn) hne

end

/-! ## `do_update` -/

def updated (s : FState) (i : Nat) (v : Val) : FState :=
  { s with nodes := s.nodes.set i { s.nodes.getD i default with val := v } }

section
variable {cap : Nat} {s : FState} {fr us : List Nat}

theorem Good.update (h : Good cap s fr us) {i : Nat} (hi : i < s.nodes.length) (v : Val) :
    Good cap (updated s i v) fr us :=
  Good.of h.ub h.cpos ((List.length_set ..).trans h.nlen) h.list h.arr h.used h.kix
    (back_set (fun (n : HNode) (y : FNode) => y.keyedIt = some n.id) h.its (fun _ => Iff.rfl))
    (back_set (slot := id) (fun (_ : Nat) (y : FNode) => y.keyedIt = none) h.free (fun _ => Iff.rfl))

theorem eOf_updated_ne (s : FState) {i x : Nat} (hne : x ≠ i) (v : Val) :
    eOf (updated s i v) x = eOf s x := by
  simp only [eOf, updated, getD_set_ne hne.symm]

theorem eOf_updated_self (s : FState) {i : Nat} (hi : i < s.nodes.length) (v : Val) :
    eOf (updated s i v) i = { eOf s i with val := v } := by
  simp only [eOf, updated, getD_set_self hi]

theorem abs_updated (h : Good cap s fr us) {n : HNode} (hn : n ∈ s.keyed) (v : Val) :
    abs (updated s n.slot v) = { cap := (abs s).cap, ents := Verif.Fifo.setVal (abs s).ents n.key v } := by
  have hlt := h.slot_lt hn
  rw [abs_eq (h.update hlt v), abs_cap h, abs_ents h, Verif.Fifo.setVal, List.map_map]
  refine congrArg (FifoState.mk cap) (List.map_congr_left fun x hx => ?_)
  show _ = if (eOf s x).key = n.key then { eOf s x with val := v } else eOf s x
  by_cases e : x = n.slot
  · rw [if_pos ((key_iff h hn hx).mpr e), e, eOf_updated_self s hlt]
  · rw [if_neg fun c => e ((key_iff h hn hx).mp c), eOf_updated_ne s e]

/-! ## `do_erase` -/

def erased (s : FState) (fr us : List Nat) (n : HNode) : FState :=
  { s with order := (n.slot :: fr) ++ us.filter (fun x => !(x == n.slot)),
           keyed := s.keyed.filter (fun m => !(m.id == n.id)),
           nodes := s.nodes.set n.slot { s.nodes.getD n.slot default with keyedIt := none },
           used := s.used - 1 }

theorem erased_getD_ne (s : FState) (fr us : List Nat) {n : HNode} {y : Nat} (hne : y ≠ n.slot) :
    (erased s fr us n).nodes.getD y default = s.nodes.getD y default :=
  getD_set_ne hne.symm

theorem erased_getD_self {s : FState} (fr us : List Nat) {n : HNode} (hlt : n.slot < s.nodes.length) :
    (erased s fr us n).nodes.getD n.slot default = { s.nodes.getD n.slot default with keyedIt := none } :=
  getD_set_self hlt

theorem doErase_eq (h : Good cap s fr us) {n : HNode} (hn : n ∈ s.keyed) :
    doErase s n.slot = erased s fr us n := by
  have hu := h.slot_mem n hn
  have hlt : ¬ n.slot ≥ s.nodes.length := Nat.not_le.mpr (h.slot_lt hn)
  have hit := h.its n hn
  have hc : s.order.contains n.slot = true := by
    rw [List.contains_iff_mem, h.list]; exact List.mem_append_right _ hu
  have hnf : n.slot ∉ fr := fun hf => h.disj hf hu
  have hord : (if s.order.head? ≠ some n.slot then LList.splice s.order s.order.head? n.slot else s.order)
      = (n.slot :: fr) ++ us.filter (fun x => !(x == n.slot)) := by
    rw [LList.guarded_splice_begin, h.list, LList.splice_begin h.nodup (List.mem_append_right _ hu),
      List.filter_append, LList.filter_ne_of_not_mem hnf]
    rfl
  unfold doErase
  simp only [hlt, if_false, hc, Bool.not_true, Bool.false_eq_true, hit, hord, any_label HNode.id hn, if_true]
  rfl

theorem Good.erase (h : Good cap s fr us) {n : HNode} (hn : n ∈ s.keyed) :
    Good cap (erased s fr us n) (n.slot :: fr) (us.filter (fun x => !(x == n.slot))) := by
  have hu := h.slot_mem n hn
  have hnf : n.slot ∉ fr := fun hf => h.disj hf hu
  have hp : ((n.slot :: fr) ++ us.filter (fun x => !(x == n.slot))).Perm (fr ++ us) :=
    (List.perm_middle (l₁ := fr)).symm.trans ((LList.cons_filter_perm h.nodup_us hu).append_left fr)
  have hlen : (us.filter (fun x => !(x == n.slot))).length + 1 = us.length :=
    Cnt.length_filter_ne (g := id) h.nodup_us hu
  refine Good.of h.ub h.cpos ((List.length_set ..).trans h.nlen) rfl (h.arr.perm hp)
    (Nat.sub_eq_of_eq_add (h.used.trans hlen.symm)) (h.kix.erase hn)
    (back_ne (fun (m : HNode) (y : FNode) => y.keyedIt = some m.id)
      (fun m hm => h.its m (List.mem_filter.mp hm).1)
      (fun m hm => (h.kix.id_ne_iff hn (List.mem_filter.mp hm).1).mp (List.mem_filter.mp hm).2))
    (fun x hx => ?_)
  rcases List.mem_cons.mp hx with rfl | hx
  · rw [erased_getD_self fr us (h.slot_lt hn)]
  · rw [erased_getD_ne s fr us (y := x) fun e => hnf (e ▸ hx)]
    exact h.free x hx

theorem eOf_erased (h : Good cap s fr us) {n : HNode} (hn : n ∈ s.keyed) {x : Nat} (hx : x ∈ us)
    (hne : x ≠ n.slot) : eOf (erased s fr us n) x = eOf s x :=
  eOf_congr (h.kix.keyAt_erase hn hx hne) (erased_getD_ne s fr us hne)

theorem abs_erased (h : Good cap s fr us) {n : HNode} (hn : n ∈ s.keyed) :
    abs (erased s fr us n) = { cap := (abs s).cap, ents := delE (abs s).ents n.key } := by
  rw [delE_abs h hn (fun _ hx hne => eOf_erased h hn hx hne), abs_cap h]
  exact abs_eq (h.erase hn)

/-! ## `do_insert` -/

/-- the state after re-using the free head node `hd` for key `k`; `ord` is the new list -/
def pushed (s : FState) (ord : List Nat) (hd : Nat) (k : Key) (v : Val) : FState :=
  { s with order := ord, keyed := s.keyed ++ [⟨s.nextNode, k, hd⟩], nextNode := s.nextNode + 1,
           used := s.used + 1, nodes := s.nodes.set hd ⟨v, some s.nextNode⟩ }

theorem pushed_getD_ne (s : FState) (ord : List Nat) {hd y : Nat} (hne : y ≠ hd) (k : Key) (v : Val) :
    (pushed s ord hd k v).nodes.getD y default = s.nodes.getD y default :=
  getD_set_ne hne.symm

theorem pushed_getD_self {s : FState} (ord : List Nat) {hd : Nat} (hlt : hd < s.nodes.length) (k : Key) (v : Val) :
    (pushed s ord hd k v).nodes.getD hd default = ⟨v, some s.nextNode⟩ :=
  getD_set_self hlt

theorem Good.push {hd : Nat} {fr' : List Nat} (h : Good cap s (hd :: fr') us) {k : Key}
    (hk : ∀ n ∈ s.keyed, n.key ≠ k) (v : Val) :
    Good cap (pushed s (fr' ++ (us ++ [hd])) hd k v) fr' (us ++ [hd]) := by
  have hhd : hd ∉ us := h.head_not_mem
  have hhf : hd ∉ fr' := fun hf => (List.nodup_cons.mp h.nodup).1 (List.mem_append_left _ hf)
  have hp : (fr' ++ (us ++ [hd])).Perm ((hd :: fr') ++ us) :=
    (List.Perm.of_eq (List.append_assoc ..).symm).trans (List.perm_append_singleton hd (fr' ++ us))
  exact Good.of h.ub h.cpos ((List.length_set ..).trans h.nlen) rfl (h.arr.perm hp)
    (show s.used + 1 = (us ++ [hd]).length by rw [List.length_append, h.used]; rfl) (h.kix.push hk hhd)
    (h.kix.back_add (fun (n : HNode) (y : FNode) => y.keyedIt = some n.id) h.its hhd
      (List.perm_append_singleton _ _) rfl h.head_lt rfl)
    (back_ne (slot := id) (fun (_ : Nat) (y : FNode) => y.keyedIt = none)
      (fun x hx => h.free x (List.mem_cons_of_mem _ hx)) (fun x hx e => hhf (e ▸ hx)))

theorem eOf_pushed_old {hd : Nat} {fr' : List Nat} (h : Good cap s (hd :: fr') us) (k : Key) (v : Val)
    {ord : List Nat} {x : Nat} (hx : x ∈ us) : eOf (pushed s ord hd k v) x = eOf s x :=
  eOf_congr (h.kix.keyAt_push_old hx) (pushed_getD_ne s ord (hd := hd) (y := x) (fun e => h.head_not_mem (e ▸ hx)) k v)

theorem eOf_pushed_new {hd : Nat} {fr' : List Nat} (h : Good cap s (hd :: fr') us) (k : Key) (v : Val)
    {ord : List Nat} : eOf (pushed s ord hd k v) hd = { key := k, val := v } := by
  unfold eOf
  rw [pushed_getD_self ord h.head_lt,
    show keyAt (pushed s ord hd k v).keyed hd = k from h.kix.keyAt_push_new h.head_not_mem]

theorem doInsert_free {hd : Nat} {fr' : List Nat} (h : Good cap s (hd :: fr') us) (k : Key) (v : Val) :
    doInsert s k v = pushed s (fr' ++ (us ++ [hd])) hd k v := by
  have hlist : s.order = hd :: (fr' ++ us) := by rw [h.list]; rfl
  have hlt : ¬ hd ≥ s.nodes.length := Nat.not_le.mpr h.head_lt
  have hfree := h.free hd (List.mem_cons_self ..)
  have hsp : LList.splice (hd :: (fr' ++ us)) none hd = fr' ++ (us ++ [hd]) := by
    rw [LList.splice_head_end (t := fr' ++ us) h.nodup, List.append_assoc]
  unfold doInsert
  rw [hlist]
  simp only [hlt, if_false, hfree, hsp]
  rfl

theorem Good.full_len (h : Good cap s [] us) : us.length = cap := (Nat.zero_add _).symm.trans h.len

theorem doInsert_full (h : Good cap s [] us) (k : Key) (v : Val) :
    ∃ n ∈ s.keyed, ∃ us', us = n.slot :: us' ∧
      doInsert s k v = pushed (erased s [] us n) (us' ++ [n.slot]) n.slot k v := by
  obtain ⟨hd, us', rfl⟩ : ∃ hd us', us = hd :: us' :=
    List.exists_cons_of_length_pos (h.full_len ▸ h.cpos)
  obtain ⟨n, hn, rfl⟩ := h.mem_slot hd (List.mem_cons_self ..)
  refine ⟨n, hn, us', rfl, ?_⟩
  have hlt := h.slot_lt hn
  have hsp : LList.splice (n.slot :: us') none n.slot = us' ++ [n.slot] := LList.splice_head_end h.nodup
  unfold doInsert
  rw [show s.order = n.slot :: us' from h.list]
  simp only [Nat.not_le.mpr hlt, if_false, h.its n hn, hsp, any_label HNode.id hn, if_true]
  -- the node is written twice and `used` goes down and up again
  congr 1
  · exact (List.set_set ..).symm
  · exact (Nat.sub_add_cancel (Nat.lt_of_lt_of_eq (Nat.zero_lt_succ _) h.used.symm)).symm

theorem doInsert_spec (h : Good cap s fr us) {k : Key} (hk : ∀ n ∈ s.keyed, n.key ≠ k) (v : Val) :
    Rel cap (doInsert s k v)
      { cap := (abs s).cap,
        ents := (if (abs s).ents.length ≥ (abs s).cap then (abs s).ents.tail else (abs s).ents)
                  ++ [{ key := k, val := v }] } := by
  rw [abs_ents h, abs_cap h, List.length_map]
  -- the state whose free head node is re-used
  obtain ⟨s1, hd, fr1, us1, h1, hk1, hins, he1⟩ : ∃ s1 hd fr1 us1, Good cap s1 (hd :: fr1) us1 ∧
      (∀ m ∈ s1.keyed, m.key ≠ k) ∧ doInsert s k v = pushed s1 (fr1 ++ (us1 ++ [hd])) hd k v ∧
      us1.map (eOf s1) = if us.length ≥ cap then (us.map (eOf s)).tail else us.map (eOf s) := by
    cases fr with
    | cons hd fr' =>
      have hul : ¬ us.length ≥ cap := Nat.not_le.mpr
        (Nat.lt_of_lt_of_eq (Nat.lt_add_of_pos_left (Nat.zero_lt_succ _)) h.len)
      exact ⟨s, hd, fr', us, h, hk, doInsert_free h k v, (if_neg hul).symm⟩
    | nil =>
      obtain ⟨n, hn, us', rfl, he⟩ := doInsert_full h k v
      have hnu : n.slot ∉ us' := (List.nodup_cons.mp h.nodup_us).1
      have h1 := h.erase hn
      rw [LList.filter_ne_head hnu] at h1
      refine ⟨_, n.slot, [], us', h1, fun m hm => hk m (List.mem_filter.mp hm).1, he, ?_⟩
      rw [if_pos (Nat.le_of_eq h.full_len.symm), List.map_cons, List.tail_cons]
      exact List.map_congr_left fun x hx =>
        eOf_erased h hn (List.mem_cons_of_mem _ hx) fun e => hnu (e ▸ hx)
  rw [hins]
  have hg := h1.push hk1 v
  refine ⟨⟨fr1, us1 ++ [hd], hg⟩, (abs_eq hg).trans (congrArg (FifoState.mk cap) ?_)⟩
  rw [List.map_append, ← he1, List.map_congr_left fun x hx => eOf_pushed_old h1 k v hx, List.map_singleton,
    eOf_pushed_new h1 k v]

end

/-! ## the single-key primitives, case by case -/

section
variable {s : FState}

theorem insert1_none (hub : s.ub = false) {k : Key} (hf : findNode s k = none) (v : Val) (a : Allow) :
    insert1 s k v a = if a.ins then (doInsert s k v, true) else (s, false) := by
  simp only [insert1, hub, hf, Bool.false_eq_true, if_false]

theorem insert1_some (hub : s.ub = false) {k : Key} {n : HNode} (hf : findNode s k = some n)
    (hlt : n.slot < s.nodes.length) (v : Val) (a : Allow) :
    insert1 s k v a = if a.upd then (updated s n.slot v, true) else (s, false) := by
  simp only [insert1, hub, hf, Bool.false_eq_true, if_false, Nat.not_le.mpr hlt, updated]

theorem find1_none (hub : s.ub = false) {k : Key} (hf : findNode s k = none) : find1 s k = (s, none) := by
  simp only [find1, hub, hf, Bool.false_eq_true, if_false]

theorem find1_some (hub : s.ub = false) {k : Key} {n : HNode} (hf : findNode s k = some n)
    (hlt : n.slot < s.nodes.length) : find1 s k = (s, some ((s.nodes.getD n.slot default).val, 0)) := by
  simp only [find1, hub, hf, Bool.false_eq_true, if_false, Nat.not_le.mpr hlt]

theorem erase1_none (hub : s.ub = false) {k : Key} (hf : findNode s k = none) : erase1 s k = (s, false) := by
  simp only [erase1, hub, hf, Bool.false_eq_true, if_false]

theorem erase1_some (hub : s.ub = false) {k : Key} {n : HNode} (hf : findNode s k = some n) :
    erase1 s k = (doErase s n.slot, true) := by
  simp only [erase1, hub, hf, Bool.false_eq_true, if_false]

end

section
variable {cap : Nat} {s : FState} {fr us : List Nat}

theorem rel_self (h : Good cap s fr us) : Rel cap s (abs s) := ⟨⟨fr, us, h⟩, rfl⟩

theorem sim_insert1 (h : Good cap s fr us) (k : Key) (v : Val) (a : Allow) :
    (insert1 s k v a).2 = (Verif.Fifo.insert1 (abs s) k v a).2 ∧
    Rel cap (insert1 s k v a).1 (Verif.Fifo.insert1 (abs s) k v a).1 := by
  cases hf : findNode s k with
  | none =>
    rw [insert1_none h.ub hf, Verif.Fifo.insert1_none (getE_abs_none h hf)]
    cases a.ins
    · exact ⟨rfl, rel_self h⟩
    · exact ⟨rfl, doInsert_spec h (find?_key_none hf) v⟩
  | some n =>
    obtain ⟨hn, rfl⟩ := find?_key_some hf
    have hlt := h.slot_lt hn
    rw [insert1_some h.ub hf hlt, Verif.Fifo.insert1_some (getE_abs_some h hf)]
    cases a.upd
    · exact ⟨rfl, rel_self h⟩
    · exact ⟨rfl, ⟨fr, us, h.update hlt v⟩, abs_updated h hn v⟩

theorem sim_find1 (h : Good cap s fr us) (k : Key) :
    (find1 s k).2 = (Verif.Fifo.find1 (abs s) k).2 ∧ Rel cap (find1 s k).1 (Verif.Fifo.find1 (abs s) k).1 := by
  unfold Verif.Fifo.find1
  cases hf : findNode s k with
  | none =>
    rw [find1_none h.ub hf, getE_abs_none h hf]
    exact ⟨rfl, rel_self h⟩
  | some n =>
    rw [find1_some h.ub hf (h.slot_lt (find?_key_some hf).1), getE_abs_some h hf]
    exact ⟨rfl, rel_self h⟩

theorem sim_erase1 (h : Good cap s fr us) (k : Key) :
    (erase1 s k).2 = (Verif.Fifo.erase1 (abs s) k).2 ∧ Rel cap (erase1 s k).1 (Verif.Fifo.erase1 (abs s) k).1 := by
  cases hf : findNode s k with
  | none =>
    rw [erase1_none h.ub hf, Verif.Fifo.erase1_none (getE_abs_none h hf)]
    exact ⟨rfl, rel_self h⟩
  | some n =>
    obtain ⟨hn, rfl⟩ := find?_key_some hf
    rw [erase1_some h.ub hf, Verif.Fifo.erase1_some (getE_abs_some h hf), doErase_eq h hn]
    exact ⟨rfl, ⟨_, _, h.erase hn⟩, abs_erased h hn⟩

end

/-! ## every history -/

theorem good_init {cap : Nat} (hcap : 0 < cap) : Good cap (init cap) (List.range cap) [] :=
  Good.of rfl hcap (List.length_replicate ..) (List.append_nil _).symm
    ((List.append_nil _).symm ▸ Arr.range cap) rfl KIx.nil (fun _ hn => absurd hn List.not_mem_nil)
    (fun x hx => by
      have hx' : x < cap := List.mem_range.mp hx
      simp [init, List.getD_eq_getElem?_getD, hx'])

theorem abs_init (cap : Nat) : abs (init cap) = Verif.Fifo.init cap := by
  cases cap with
  | zero => rfl
  | succ n => rw [abs_eq (good_init (Nat.succ_pos n))]; rfl

theorem sim (cap : Nat) : Sim core Verif.Fifo.core (Rel cap) where
  pre _ _ _ hr := hr
  insert1 := by
    rintro s _ now k v a ttl ⟨⟨fr, us, h⟩, rfl⟩
    exact sim_insert1 h k v a
  find1 := by
    rintro s _ now k peek ⟨⟨fr, us, h⟩, rfl⟩
    exact sim_find1 h k
  erase1 := by
    rintro s _ k ⟨⟨fr, us, h⟩, rfl⟩
    exact sim_erase1 h k
  noClearC := rfl
  noClearD := rfl
  clean _ _ _ hr := ⟨rfl, hr⟩
  age _ _ _ hr := ⟨rfl, hr⟩
  updateTtl _ _ _ hr := hr
  size := by
    rintro s _ ⟨⟨fr, us, h⟩, rfl⟩
    show s.used = (abs s).ents.length
    rw [abs_eq h, h.used, List.length_map]
  capacity _ _ hr := congrArg FifoState.cap hr.2

theorem run_good {cap : Nat} {s : FState} (h : ∃ fr us, Good cap s fr us) (ops : List (Time × Op)) :
    (∃ fr us, Good cap (core.run s ops).1 fr us) ∧
    (core.run s ops).2 = (Verif.Fifo.core.run (abs s) ops).2 ∧
    abs (core.run s ops).1 = (Verif.Fifo.core.run (abs s) ops).1 :=
  (sim cap).toSim2.run_abs h ops

/-- **C08 (model part), fifo_cache**: the node-level model never splices `begin()` of an empty list, never indexes
out of range, never erases through a stale hash iterator. -/
theorem no_ub (cap : Nat) (hcap : 0 < cap) (ops : List (Time × Op)) :
    (core.run (init cap) ops).1.ub = false := by
  obtain ⟨⟨fr, us, h⟩, _⟩ := run_good ⟨_, _, good_init hcap⟩ ops
  exact h.ub

/-- same results as the L1 model on every history; the L2 state abstracts to the L1 state -/
theorem refines_l1 (cap : Nat) (hcap : 0 < cap) (ops : List (Time × Op)) :
    (core.run (init cap) ops).2 = (Verif.Fifo.core.run (Verif.Fifo.init cap) ops).2 ∧
    abs (core.run (init cap) ops).1 = (Verif.Fifo.core.run (Verif.Fifo.init cap) ops).1 := by
  have h := run_good ⟨_, _, good_init hcap⟩ ops
  rw [abs_init] at h
  exact h.2

end Verif.L2.Fifo
