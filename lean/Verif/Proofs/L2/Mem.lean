import Verif.Concrete.Slot
import Verif.ListLemmas
/-!
# What the L2 models use as memory

The invariants `Good` of all containers but rr and ut_map say the same things about the node list, its partition
iterator and the indices, so they are said here once, with the lemmas that keep them across what the C++ does to them.

* `Arr cap l`: `l` is an arrangement of `0 … cap-1` (`m_fifo_list`, which has no partition iterator);
* `Part cap l e n u f`: the node list `l` is `u ++ f`, an arrangement of `0 … cap-1`; `u` is the in-use
  prefix, the partition iterator `e` (`m_lru_end`, `m_open_list_end`) points at the head of `f`, and `n`
  (`m_used_size`) counts `u`.  `perm`, `splice_front`, `splice_end` are for `do_access`, `move_end` and `erase`
  for `do_erase`, `push` for `do_insert`;
* `Ix id slot l next u`: an index `l` of nodes with identities below `next`, exactly one node per in-use
  slot: the hash index, tlru's multimap and utlru's list, lfu's multimap.  `erase` (`erase_slot`), `push`
  and `refile` are what `erase(it)`, `emplace` and erase-then-emplace do to it;
* `KIx keyed next u`: the hash index, whose keys are distinct too.  `keyAt keyed x` is the key it maps to
  slot `x` (`Slot.entryOf`, `Ttl.keyOf`, `Cnt.keyOf` and `Fifo.eOf` read keys this way).

rr's `m_open_list` is an array read by position, and ut_map has no slots: what they need beyond the lemmas on tables
and labelled lists is in `Rr.lean` (`swap`, `perm_range_*`) and `UtMap.lean` (`Pair`).
-/

-- core finds `ReflBEq Nat` (`beq_self_eq_true`, also as a `simp` lemma) only at the end of a long search through the
-- order classes; the lemmas on filtering a node out by `!(x == i)` all need it
local instance Verif.L2.reflBEqNat : ReflBEq Nat := LawfulBEq.toReflBEq

namespace Verif.L2

theorem getD_set_self {α : Type} {l : List α} {i : Nat} (hi : i < l.length) {x d : α} :
    (l.set i x).getD i d = x := by
  rw [List.getD_eq_getElem?_getD, List.getElem?_set_self hi, Option.getD_some]

theorem getD_set_ne {α : Type} {l : List α} {i j : Nat} (hne : i ≠ j) {x d : α} :
    (l.set i x).getD j d = l.getD j d := by
  rw [List.getD_eq_getElem?_getD, List.getElem?_set_ne hne, List.getD_eq_getElem?_getD]

theorem set_getD_noop {α : Type} {l : List α} {i : Nat} (hi : i < l.length) (d : α) : l.set i (l.getD i d) = l := by
  rw [← List.getElem_eq_getD (h := hi) d, List.set_getElem_self]

theorem getD_set_proj {α β : Type} (f : α → β) {l : List α} {i : Nat} {x d : α} (hx : f x = f (l.getD i d))
    (j : Nat) : f ((l.set i x).getD j d) = f (l.getD j d) := by
  by_cases hj : i = j
  · subst hj
    by_cases hi : i < l.length
    · rw [getD_set_self hi, hx]
    · rw [List.set_eq_of_length_le (Nat.le_of_not_lt hi)]
  · rw [getD_set_ne hj]

/-! ## what the slots say of the nodes of an index

Each node `n` of an index `l` has something to say of its slot, `P n slots[slot n]`: the slot points back at
the node (`m_lru_position`, `m_keyed_position`, `m_ttl_position`), a tlru node repeats its slot's deadline.
`back_set` and `back_ne` keep that across a write to a slot; across a new node it is `Ix.back_add`, below. -/

section
variable {σ ν : Type} (P : ν → σ → Prop) {slot : ν → Nat} {slots : List σ} {l : List ν} {d : σ} {i : Nat} {y : σ}

theorem back_set (h : ∀ n ∈ l, P n (slots.getD (slot n) d)) (hy : ∀ n, P n y ↔ P n (slots.getD i d)) :
    ∀ n ∈ l, P n ((slots.set i y).getD (slot n) d) :=
  fun n hn => (getD_set_proj (P n) (propext (hy n)) (slot n)).mpr (h n hn)

theorem back_ne (h : ∀ n ∈ l, P n (slots.getD (slot n) d)) (hi : ∀ n ∈ l, slot n ≠ i) :
    ∀ n ∈ l, P n ((slots.set i y).getD (slot n) d) := by
  intro n hn
  rw [getD_set_ne (fun e => hi n hn e.symm)]
  exact h n hn

end

/-! ## lists of nodes with pairwise distinct labels -/

section
variable {α : Type} {g h : α → Nat} {l : List α}

theorem pairwise_snoc (hl : l.Pairwise (fun a b => g a ≠ g b)) {x : α} (hx : ∀ a ∈ l, g a ≠ g x) :
    (l ++ [x]).Pairwise (fun a b => g a ≠ g b) :=
  List.pairwise_append.mpr ⟨hl, List.pairwise_singleton _ _, fun a ha _ hb => List.mem_singleton.mp hb ▸ hx a ha⟩

theorem mem_filter_ne {i : Nat} {x : α} : x ∈ l.filter (fun y => !(g y == i)) ↔ x ∈ l ∧ g x ≠ i := by
  simp

theorem find?_of_unique {p : α → Bool} {a : α} (ha : a ∈ l) (hp : p a = true) (hu : ∀ b ∈ l, p b = true → b = a) :
    l.find? p = some a := by
  cases hf : l.find? p with
  | none => exact absurd hp (List.find?_eq_none.mp hf a ha)
  | some m => rw [hu m (List.mem_of_find?_eq_some hf) (List.find?_some hf)]

theorem find?_label (hg : l.Pairwise (fun a b => g a ≠ g b)) {a : α} (ha : a ∈ l) :
    l.find? (fun x => g x == g a) = some a :=
  find?_of_unique ha (beq_self_eq_true _) (fun _ hb e => pairwise_inj hg hb ha (eq_of_beq e))

theorem any_label (g : α → Nat) {a : α} (ha : a ∈ l) : l.any (fun x => g x == g a) = true :=
  List.any_eq_true.mpr ⟨a, ha, beq_self_eq_true _⟩

theorem label_ne_iff (hg : l.Pairwise (fun a b => g a ≠ g b)) (hh : l.Pairwise (fun a b => h a ≠ h b))
    {a b : α} (ha : a ∈ l) (hb : b ∈ l) : (!(g b == g a)) = true ↔ h b ≠ h a := by
  simp only [Bool.not_eq_true', beq_eq_false_iff_ne, ne_eq]
  exact ⟨fun hne e => hne (by rw [pairwise_inj hh hb ha e]), fun hne e => hne (by rw [pairwise_inj hg hb ha e])⟩

theorem filter_label_head {x : α} {t : List α} (hg : (x :: t).Pairwise (fun a b => g a ≠ g b)) :
    (x :: t).filter (fun m => !(g m == g x)) = t := by
  rw [List.pairwise_cons] at hg
  rw [List.filter_cons, beq_self_eq_true, Bool.not_true, if_neg Bool.false_ne_true, List.filter_eq_self]
  intro y hy
  have : g y ≠ g x := fun e => hg.1 y hy e.symm
  simp [this]

theorem cons_filter_perm (hg : l.Pairwise (fun a b => g a ≠ g b)) {a : α} (ha : a ∈ l) :
    (a :: l.filter (fun x => !(g x == g a))).Perm l := by
  induction l with
  | nil => cases ha
  | cons x t ih =>
    by_cases e : g x = g a
    · rw [← pairwise_inj hg (List.mem_cons_self ..) ha e, filter_label_head hg]
    · have hat : a ∈ t := (List.mem_cons.mp ha).resolve_left (fun c => e (c ▸ rfl))
      rw [List.filter_cons, if_pos (by simpa using e)]
      exact (List.Perm.swap _ _ _).trans ((ih (List.pairwise_cons.mp hg).2 hat).cons x)

end

theorem find?_key_some {ν : Type} {key : ν → Key} {l : List ν} {k : Key} {n : ν}
    (hf : l.find? (fun n => decide (key n = k)) = some n) : n ∈ l ∧ key n = k :=
  ⟨List.mem_of_find?_eq_some hf, by simpa using List.find?_some hf⟩

theorem find?_key_none {ν : Type} {key : ν → Key} {l : List ν} {k : Key}
    (hf : l.find? (fun n => decide (key n = k)) = none) : ∀ n ∈ l, key n ≠ k :=
  fun n hn => by simpa using List.find?_eq_none.mp hf n hn

end Verif.L2

namespace Verif.L2.Cnt

-- about any labelled list; used by `Part.erase` and by the Fifo, Rr and UtMap files
theorem length_filter_ne {α : Type} {g : α → Nat} {l : List α} (h : l.Pairwise (fun a b => g a ≠ g b))
    {a : α} (ha : a ∈ l) : (l.filter (fun x => !(g x == g a))).length + 1 = l.length :=
  (cons_filter_perm h ha).length_eq

end Verif.L2.Cnt

namespace Verif.L2.LList

theorem ne_of_not_mem {u : List Nat} {p : Nat} (h : p ∉ u) : ∀ a ∈ u, (!(a == p)) = true :=
  fun a ha => by simpa using fun e : a = p => h (e ▸ ha)

theorem takeWhile_ne_append {u r : List Nat} {p : Nat} (h : p ∉ u) :
    (u ++ p :: r).takeWhile (fun x => !(x == p)) = u := by
  rw [List.takeWhile_append_of_pos (ne_of_not_mem h), List.takeWhile_cons_of_neg (by simp), List.append_nil]

theorem dropWhile_ne_append {u r : List Nat} {p : Nat} (h : p ∉ u) :
    (u ++ p :: r).dropWhile (fun x => !(x == p)) = p :: r := by
  rw [List.dropWhile_append_of_pos (ne_of_not_mem h), List.dropWhile_cons_of_neg (by simp)]

theorem filter_ne_of_not_mem {l : List Nat} {i : Nat} (h : i ∉ l) :
    l.filter (fun x => !(x == i)) = l :=
  List.filter_eq_self.mpr (ne_of_not_mem h)

theorem filter_ne_head {x : Nat} {t : List Nat} (h : x ∉ t) : (x :: t).filter (fun y => !(y == x)) = t := by
  rw [List.filter_cons_of_neg (by simp), filter_ne_of_not_mem h]

theorem filter_ne_snoc {u : List Nat} {i : Nat} (h : i ∉ u) : (u ++ [i]).filter (fun x => !(x == i)) = u := by
  rw [List.filter_append, filter_ne_of_not_mem h]
  simp

theorem not_mem_filter_ne (l : List Nat) (i : Nat) : i ∉ l.filter (fun x => !(x == i)) := by
  simp

theorem cons_filter_perm {u : List Nat} {i : Nat} (hn : u.Nodup) (hi : i ∈ u) :
    (i :: u.filter (fun x => !(x == i))).Perm u :=
  L2.cons_filter_perm (g := id) hn hi

theorem filter_snoc_perm {u : List Nat} {i : Nat} (hn : u.Nodup) (hi : i ∈ u) :
    (u.filter (fun x => !(x == i)) ++ [i]).Perm u :=
  (List.perm_append_singleton _ _).trans (cons_filter_perm hn hi)

/-- the branch of `Part.move_end` without a splice: `it` is already `std::prev(end)` -/
theorem eq_filter_snoc_of_getLast? {u : List Nat} {i : Nat} (hn : u.Nodup) (h : u.getLast? = some i) :
    u = u.filter (fun x => !(x == i)) ++ [i] := by
  obtain ⟨d, rfl⟩ := List.getLast?_eq_some_iff.mp h
  have hd : i ∉ d := by
    intro hm
    exact (List.nodup_append.mp hn).2.2 i hm i (by simp) rfl
  simp [List.filter_append, filter_ne_of_not_mem hd]

/-! ### the list `u ++ f`, partition iterator `f.head?` -/

section
variable {u f : List Nat}

theorem head_not_mem (hn : (u ++ f).Nodup) {p : Nat} {r : List Nat} (hf : f = p :: r) : p ∉ u := by
  subst hf
  intro hm
  exact (List.nodup_append.mp hn).2.2 p hm p (by simp) rfl

/-- `std::prev(m_lru_end)` is the last in-use node -/
theorem prev_partition (hn : (u ++ f).Nodup) : prev (u ++ f) f.head? = u.getLast? := by
  cases f with
  | nil => simp [prev]
  | cons q r =>
    have := takeWhile_ne_append (r := r) (head_not_mem hn rfl)
    simp only [prev, List.head?_cons, this]
    rw [if_neg]
    simp

/-- `splice(pos, l, it)` with `pos` at another node `p`: `i` goes in front of `p` -/
theorem splice_before {l a b : List Nat} {p i : Nat} (hpi : p ≠ i)
    (hl : l.filter (fun x => !(x == i)) = a ++ p :: b) (hp : p ∉ a) :
    splice l (some p) i = a ++ i :: p :: b := by
  simp only [splice, Option.some.injEq, hpi, if_false, hl]
  rw [takeWhile_ne_append hp, dropWhile_ne_append hp]

theorem filter_ne_append (hn : (u ++ f).Nodup) {i : Nat} (hi : i ∈ u) :
    (u ++ f).filter (fun x => !(x == i)) = u.filter (fun x => !(x == i)) ++ f := by
  rw [List.filter_append, filter_ne_of_not_mem (fun hm => (List.nodup_append.mp hn).2.2 i hi i hm rfl)]

/-- `splice(m_lru_end, l, it)`: `do_erase`, mru `do_access`, lfuda `do_access`; in `do_dynamic_age` the partition is
at `da_last` -/
theorem splice_partition (hn : (u ++ f).Nodup) {i : Nat} (hi : i ∈ u) :
    splice (u ++ f) f.head? i = u.filter (fun x => !(x == i)) ++ i :: f := by
  cases f with
  | nil => simp [splice]
  | cons q r =>
    exact splice_before (fun e => head_not_mem hn rfl (e ▸ hi)) (filter_ne_append hn hi)
      (fun hm => head_not_mem hn rfl (List.mem_filter.mp hm).1)

/-- `splice(begin(), l, it)`: `do_access` of lru, tlru and utlru -/
theorem splice_front (hn : (u ++ f).Nodup) {i : Nat} (hi : i ∈ u) :
    splice (u ++ f) (u ++ f).head? i = i :: u.filter (fun x => !(x == i)) ++ f := by
  cases u with
  | nil => cases hi
  | cons h t =>
    by_cases he : h = i
    · subst he
      simp [splice, filter_ne_head (List.nodup_cons.mp (List.nodup_append.mp hn).1).1]
    · have hf : (h :: t).filter (fun x => !(x == i)) = h :: t.filter (fun x => !(x == i)) :=
        List.filter_cons_of_pos (by simpa using he)
      rw [hf]
      exact splice_before (a := []) he ((filter_ne_append hn hi).trans (congrArg (· ++ f) hf)) List.not_mem_nil

/-- `++m_lru_end` in `do_insert`: from the first free node to the second -/
theorem next_partition (hn : (u ++ f).Nodup) {p : Nat} {r : List Nat} (hf : f = p :: r) :
    next (u ++ f) p = r.head? := by
  have hp := head_not_mem hn hf
  subst hf
  simp only [next, dropWhile_ne_append hp]
  cases r <;> simp

end

/-! ### a duplicate-free list without a partition iterator (`m_fifo_list`) -/

/-- fifo `do_erase`: `splice(begin(), l, pos)` -/
theorem splice_begin {l : List Nat} {i : Nat} (hn : l.Nodup) (hi : i ∈ l) :
    splice l l.head? i = i :: l.filter (fun x => !(x == i)) := by
  have := splice_front (u := l) (f := []) (by simpa using hn) hi
  simpa using this

/-- the guard around it, `if (pos != begin())`, changes nothing -/
theorem guarded_splice_begin (l : List Nat) (i : Nat) :
    (if l.head? ≠ some i then splice l l.head? i else l) = splice l l.head? i := by
  by_cases e : l.head? = some i
  · simp [splice, e]
  · simp [e]

/-- fifo `do_insert`: `splice(end(), l, begin())`, the head becomes the tail -/
theorem splice_head_end {hd : Nat} {t : List Nat} (hn : (hd :: t).Nodup) :
    splice (hd :: t) none hd = t ++ [hd] := by
  rw [List.nodup_cons] at hn
  simp [splice, filter_ne_of_not_mem hn.1]

end Verif.L2.LList

namespace Verif.L2

structure Arr (cap : Nat) (l : List Nat) : Prop where
  nodup : l.Nodup
  len : l.length = cap
  lt : ∀ x ∈ l, x < cap

theorem Arr.range (cap : Nat) : Arr cap (List.range cap) :=
  ⟨List.nodup_range, List.length_range, fun _ hx => List.mem_range.mp hx⟩

theorem Arr.perm {cap : Nat} {l l' : List Nat} (h : Arr cap l) (hp : l'.Perm l) : Arr cap l' :=
  ⟨hp.nodup_iff.mpr h.nodup, hp.length_eq.trans h.len, fun x hx => h.lt x (hp.mem_iff.mp hx)⟩

structure Part (cap : Nat) (l : List Nat) (e : Option Nat) (n : Nat) (u f : List Nat) : Prop where
  list : l = u ++ f
  nodup : (u ++ f).Nodup
  len : u.length + f.length = cap
  lt : ∀ x ∈ u ++ f, x < cap
  lend : e = f.head?
  used : n = u.length

namespace Part
variable {cap : Nat} {l : List Nat} {e : Option Nat} {n : Nat} {u f : List Nat}

theorem init (cap : Nat) : Part cap (List.range cap) (List.range cap).head? 0 [] (List.range cap) :=
  ⟨rfl, by simpa using List.nodup_range, by simp, fun x hx => by simpa using hx, rfl, rfl⟩

theorem nodup_u (h : Part cap l e n u f) : u.Nodup := (List.nodup_append.mp h.nodup).1

theorem lt_u (h : Part cap l e n u f) {x : Nat} (hx : x ∈ u) : x < cap := h.lt x (List.mem_append_left _ hx)

theorem length (h : Part cap l e n u f) : l.length = cap := by rw [h.list, List.length_append]; exact h.len

theorem contains (h : Part cap l e n u f) {x : Nat} (hx : x ∈ u) : l.contains x = true := by
  rw [List.contains_iff_mem, h.list]; exact List.mem_append_left _ hx

/-- the left side is the body of `usedPrefix` in `Slot`, `Ttl` and `Cnt` -/
theorem usedPrefix (h : Part cap l e n u f) :
    (match (generalizing := false) e with
      | none => l
      | some p => l.takeWhile (fun x => !(x == p))) = u := by
  rw [h.list, h.lend]
  cases f with
  | nil => exact List.append_nil u
  | cons p r => exact LList.takeWhile_ne_append (LList.head_not_mem h.nodup rfl)

theorem full (h : Part cap l e n u f) (hf : n ≥ cap) : f = [] := by
  have hle : u.length + f.length ≤ u.length + 0 := by rw [h.len, ← h.used]; exact hf
  exact List.eq_nil_of_length_eq_zero (Nat.le_zero.mp (Nat.le_of_add_le_add_left hle))

theorem not_full (h : Part cap l e n u f) (hf : ¬ n ≥ cap) : ∃ i r, f = i :: r := by
  have hlt : u.length < u.length + f.length := by rw [h.len, ← h.used]; exact Nat.not_le.mp hf
  exact List.exists_cons_of_length_pos (Nat.lt_add_right_iff_pos.mp hlt)

theorem perm (h : Part cap l e n u f) {u' : List Nat} (hp : u'.Perm u) : Part cap (u' ++ f) e n u' f :=
  ⟨rfl, ((hp.append_right f).nodup_iff).mpr h.nodup, by rw [hp.length_eq]; exact h.len,
    fun x hx => h.lt x (((hp.append_right f).mem_iff).mp hx), h.lend, h.used.trans hp.length_eq.symm⟩

theorem erase (h : Part cap l e n u f) {i : Nat} (hi : i ∈ u) :
    Part cap (u.filter (fun x => !(x == i)) ++ i :: f) (some i) (n - 1) (u.filter (fun x => !(x == i))) (i :: f) := by
  have hp : (u.filter (fun x => !(x == i)) ++ i :: f).Perm (u ++ f) :=
    List.perm_middle.trans ((LList.cons_filter_perm h.nodup_u hi).append_right f)
  have hlen : (u.filter (fun x => !(x == i))).length + 1 = u.length :=
    Cnt.length_filter_ne (g := id) h.nodup_u hi
  have hcap : (u.filter (fun x => !(x == i))).length + (i :: f).length = cap :=
    calc _ = ((u.filter (fun x => !(x == i))).length + 1) + f.length := by
            rw [List.length_cons, Nat.add_right_comm]; rfl
         _ = cap := by rw [hlen, h.len]
  exact ⟨rfl, hp.nodup_iff.mpr h.nodup, hcap,
    fun x hx => h.lt x (hp.mem_iff.mp hx), rfl, by rw [h.used, ← hlen]; rfl⟩

theorem push {i : Nat} {r : List Nat} (h : Part cap l e n u (i :: r)) :
    Part cap l (LList.next l i) (n + 1) (u ++ [i]) r := by
  have ha : (u ++ [i]) ++ r = u ++ i :: r := List.append_cons u i r |>.symm
  exact ⟨ha ▸ h.list, ha ▸ h.nodup, by rw [← h.len, ← List.length_append, ha, List.length_append],
    ha ▸ h.lt, by rw [h.list]; exact LList.next_partition h.nodup rfl, by rw [h.used, List.length_append]; rfl⟩

theorem head_not_mem {i : Nat} {r : List Nat} (h : Part cap l e n u (i :: r)) : i ∉ u :=
  LList.head_not_mem h.nodup rfl

/-- the idiom `last = prev(end); if (it != last) splice(end, list, it); end = prev(end)` of `do_erase`
(and of lfuda's `do_access`) on an in-use node -/
theorem move_end (h : Part cap l e n u f) {i : Nat} (hi : i ∈ u) :
    ∃ last, LList.prev l e = some last ∧
      (if i ≠ last then LList.splice l e i else l) = u.filter (fun x => !(x == i)) ++ i :: f ∧
      LList.prev (u.filter (fun x => !(x == i)) ++ i :: f) e = some i := by
  obtain ⟨last, hlast⟩ : ∃ last, u.getLast? = some last :=
    ⟨_, List.getLast?_eq_some_getLast (List.ne_nil_of_mem hi)⟩
  refine ⟨last, by rw [h.list, h.lend, LList.prev_partition h.nodup, hlast], ?_, ?_⟩
  · rw [h.list, h.lend]
    by_cases e : i = last
    · subst e
      rw [if_neg (fun c => c rfl), List.append_cons, ← LList.eq_filter_snoc_of_getLast? h.nodup_u hlast]
    · rw [if_pos e]
      exact LList.splice_partition h.nodup hi
  · rw [h.lend, List.append_cons, LList.prev_partition
      (((LList.filter_snoc_perm h.nodup_u hi).append_right f).nodup_iff.mpr h.nodup), List.getLast?_concat]

theorem splice_front (h : Part cap l e n u f) {i : Nat} (hi : i ∈ u) :
    LList.splice l l.head? i = (i :: u.filter (fun x => !(x == i))) ++ f := by
  rw [h.list]; exact LList.splice_front h.nodup hi

theorem splice_end (h : Part cap l e n u f) {i : Nat} (hi : i ∈ u) :
    LList.splice l e i = (u.filter (fun x => !(x == i)) ++ [i]) ++ f := by
  rw [h.list, h.lend, LList.splice_partition h.nodup hi]; simp

theorem last (h : Part cap l e n u f) (hpos : 0 < n) : ∃ i, u.getLast? = some i ∧ i ∈ u :=
  have hne : u ≠ [] := List.ne_nil_of_length_pos (h.used ▸ hpos)
  ⟨_, List.getLast?_eq_some_getLast hne, List.getLast_mem hne⟩

end Part

structure Ix {ν : Type} (id slot : ν → Nat) (l : List ν) (next : Nat) (u : List Nat) : Prop where
  ids : l.Pairwise (fun a b => id a ≠ id b)
  idlt : ∀ n ∈ l, id n < next
  slots : l.Pairwise (fun a b => slot a ≠ slot b)
  slot_mem : ∀ n ∈ l, slot n ∈ u
  mem_slot : ∀ x ∈ u, ∃ n ∈ l, slot n = x

namespace Ix
variable {ν : Type} {id slot : ν → Nat} {l : List ν} {next : Nat} {u : List Nat}

theorem nil : Ix id slot ([] : List ν) next [] :=
  ⟨List.Pairwise.nil, fun _ h => absurd h List.not_mem_nil, List.Pairwise.nil, fun _ h => absurd h List.not_mem_nil,
    fun _ h => absurd h List.not_mem_nil⟩

theorem find_id (h : Ix id slot l next u) {n : ν} (hn : n ∈ l) : l.find? (fun m => id m == id n) = some n :=
  find?_label h.ids hn

theorem find_slot (h : Ix id slot l next u) {n : ν} (hn : n ∈ l) :
    l.find? (fun m => slot m == slot n) = some n :=
  find?_label h.slots hn

theorem id_ne_iff (h : Ix id slot l next u) {n m : ν} (hn : n ∈ l) (hm : m ∈ l) :
    (!(id m == id n)) = true ↔ slot m ≠ slot n :=
  label_ne_iff h.ids h.slots hn hm

theorem filter_id (h : Ix id slot l next u) {n : ν} (hn : n ∈ l) :
    l.filter (fun m => !(id m == id n)) = l.filter (fun m => !(slot m == slot n)) :=
  List.filter_congr fun m hm => by rw [Bool.eq_iff_iff, h.id_ne_iff hn hm]; simp

theorem perm (h : Ix id slot l next u) (hu : u.Nodup) : (l.map slot).Perm u := by
  rw [List.perm_ext_iff_of_nodup (by rw [List.Nodup, List.pairwise_map]; exact h.slots) hu]
  intro a
  constructor
  · intro ha
    obtain ⟨q, hq, rfl⟩ := List.mem_map.mp ha
    exact h.slot_mem q hq
  · intro ha
    obtain ⟨q, hq, rfl⟩ := h.mem_slot a ha
    exact List.mem_map_of_mem hq

theorem length (h : Ix id slot l next u) (hu : u.Nodup) : l.length = u.length := by
  simpa using (h.perm hu).length_eq

theorem congr_u (h : Ix id slot l next u) {u' : List Nat} (hp : u'.Perm u) : Ix id slot l next u' :=
  ⟨h.ids, h.idlt, h.slots, fun n hn => hp.mem_iff.mpr (h.slot_mem n hn), fun x hx => h.mem_slot x (hp.mem_iff.mp hx)⟩

theorem erase (h : Ix id slot l next u) {n : ν} (hn : n ∈ l) :
    Ix id slot (l.filter (fun m => !(id m == id n))) next (u.filter (fun x => !(x == slot n))) where
  ids := h.ids.filter _
  idlt := fun m hm => h.idlt m (List.mem_filter.mp hm).1
  slots := h.slots.filter _
  slot_mem := fun m hm =>
    mem_filter_ne.mpr ⟨h.slot_mem m (List.mem_filter.mp hm).1, (h.id_ne_iff hn (List.mem_filter.mp hm).1).mp (List.mem_filter.mp hm).2⟩
  mem_slot := fun x hx => by
    obtain ⟨m, hm, rfl⟩ := h.mem_slot x (mem_filter_ne.mp hx).1
    exact ⟨m, List.mem_filter.mpr ⟨hm, (h.id_ne_iff hn hm).mpr (mem_filter_ne.mp hx).2⟩, rfl⟩

theorem erase_slot (h : Ix id slot l next u) {x : Nat} (hx : x ∈ u) :
    Ix id slot (l.filter (fun m => !(slot m == x))) next (u.filter (fun y => !(y == x))) := by
  obtain ⟨n, hn, rfl⟩ := h.mem_slot x hx
  rw [← h.filter_id hn]
  exact h.erase hn

/-- `l'` is any rearrangement: the new node is appended (hash index) or filed in order (the other indices) -/
theorem add (h : Ix id slot l next u) {x : ν} (hid : ∀ y ∈ l, id y ≠ id x) {next' : Nat} (hlt : id x < next')
    (hle : next ≤ next') (hs : slot x ∉ u) {l' : List ν} (hl : l'.Perm (x :: l)) {u' : List Nat}
    (hu : ∀ y, y ∈ u' ↔ y = slot x ∨ y ∈ u) : Ix id slot l' next' u' where
  ids := (hl.pairwise_iff (fun hab e => hab e.symm)).mpr (List.pairwise_cons.mpr ⟨fun y hy e => hid y hy e.symm, h.ids⟩)
  idlt := fun m hm => by
    rcases List.mem_cons.mp (hl.mem_iff.mp hm) with rfl | hm
    · exact hlt
    · exact Nat.lt_of_lt_of_le (h.idlt m hm) hle
  slots := (hl.pairwise_iff (fun hab e => hab e.symm)).mpr
    (List.pairwise_cons.mpr ⟨fun y hy e => hs (e ▸ h.slot_mem y hy), h.slots⟩)
  slot_mem := fun m hm => by
    rcases List.mem_cons.mp (hl.mem_iff.mp hm) with rfl | hm
    · exact (hu _).mpr (Or.inl rfl)
    · exact (hu _).mpr (Or.inr (h.slot_mem m hm))
  mem_slot := fun y hy => by
    rcases (hu y).mp hy with rfl | hy
    · exact ⟨x, hl.mem_iff.mpr (List.mem_cons_self ..), rfl⟩
    · obtain ⟨m, hm, e⟩ := h.mem_slot y hy
      exact ⟨m, hl.mem_iff.mpr (List.mem_cons_of_mem _ hm), e⟩

theorem back_add (h : Ix id slot l next u) {σ : Type} (P : ν → σ → Prop) {slots : List σ} {d : σ}
    (hb : ∀ n ∈ l, P n (slots.getD (slot n) d)) {x : ν} (hs : slot x ∉ u) {l' : List ν}
    (hl : l'.Perm (x :: l)) {i : Nat} (hx : slot x = i) (hi : i < slots.length) {y : σ} (hy : P x y) :
    ∀ n ∈ l', P n ((slots.set i y).getD (slot n) d) := by
  intro n hn
  rcases List.mem_cons.mp (hl.mem_iff.mp hn) with rfl | hm
  · rw [hx, getD_set_self hi]
    exact hy
  · rw [getD_set_ne (fun e => hs (hx.trans e ▸ h.slot_mem n hm))]
    exact hb n hm

theorem push (h : Ix id slot l next u) {x : ν} (hid : id x = next) (hs : slot x ∉ u) {l' : List ν}
    (hl : l'.Perm (x :: l)) : Ix id slot l' (next + 1) (u ++ [slot x]) :=
  h.add (fun y hy e => Nat.ne_of_lt (h.idlt y hy) (e.trans hid)) (hid ▸ Nat.lt_succ_self _) (Nat.le_succ _) hs hl
    (fun y => by simp [or_comm])

theorem refile (h : Ix id slot l next u) {old x : ν} (hold : old ∈ l) (hsx : slot x = slot old)
    (hid : ∀ y ∈ l, id y ≠ id old → id y ≠ id x) {next' : Nat} (hlt : id x < next') (hle : next ≤ next')
    {l' : List ν} (hl : l'.Perm (x :: l.filter (fun m => !(id m == id old)))) : Ix id slot l' next' u :=
  (h.erase hold).add (fun y hy => hid y (mem_filter_ne.mp hy).1 (mem_filter_ne.mp hy).2) hlt hle
    (by rw [hsx]; exact LList.not_mem_filter_ne u _) hl
    (fun y => by
      rw [hsx, mem_filter_ne]
      by_cases e : y = slot old
      · simp [e, h.slot_mem old hold]
      · simp [e])

end Ix

structure KIx (keyed : List HNode) (next : Nat) (u : List Nat) : Prop
    extends Ix HNode.id HNode.slot keyed next u where
  kkeys : keyed.Pairwise (fun a b => a.key ≠ b.key)

def keyAt (keyed : List HNode) (x : Nat) : Key := ((keyed.find? (fun n => n.slot == x)).map (·.key)).getD 0

namespace KIx
variable {keyed : List HNode} {next : Nat} {u : List Nat}

theorem nil : KIx [] next [] := ⟨Ix.nil, .nil⟩

theorem congr_u (h : KIx keyed next u) {u' : List Nat} (hp : u'.Perm u) : KIx keyed next u' :=
  ⟨h.toIx.congr_u hp, h.kkeys⟩

theorem erase (h : KIx keyed next u) {n : HNode} (hn : n ∈ keyed) :
    KIx (keyed.filter (fun m => !(m.id == n.id))) next (u.filter (fun x => !(x == n.slot))) :=
  ⟨h.toIx.erase hn, h.kkeys.filter _⟩

theorem push (h : KIx keyed next u) {k : Key} (hk : ∀ n ∈ keyed, n.key ≠ k) {i : Nat} (hi : i ∉ u) :
    KIx (keyed ++ [⟨next, k, i⟩]) (next + 1) (u ++ [i]) :=
  ⟨h.toIx.push (x := ⟨next, k, i⟩) rfl hi (List.perm_append_singleton _ _), pairwise_snoc h.kkeys hk⟩

theorem keyAt_node (h : KIx keyed next u) {n : HNode} (hn : n ∈ keyed) : keyAt keyed n.slot = n.key := by
  simp [keyAt, h.find_slot hn]

theorem keyAt_inj (h : KIx keyed next u) {x y : Nat} (hx : x ∈ u) (hy : y ∈ u) (e : keyAt keyed x = keyAt keyed y) :
    x = y := by
  obtain ⟨n, hn, rfl⟩ := h.mem_slot x hx
  obtain ⟨m, hm, rfl⟩ := h.mem_slot y hy
  rw [h.keyAt_node hn, h.keyAt_node hm] at e
  rw [pairwise_inj h.kkeys hn hm e]

theorem key_beq (h : KIx keyed next u) {x y : Nat} (hx : x ∈ u) (hy : y ∈ u) :
    decide (keyAt keyed x = keyAt keyed y) = (x == y) := by
  by_cases e : x = y
  · subst e; simp
  · rw [decide_eq_false (fun c => e (h.keyAt_inj hx hy c)), beq_false_of_ne e]

theorem keyAt_erase (h : KIx keyed next u) {n : HNode} (hn : n ∈ keyed) {x : Nat} (hx : x ∈ u) (hne : x ≠ n.slot) :
    keyAt (keyed.filter (fun m => !(m.id == n.id))) x = keyAt keyed x := by
  obtain ⟨m, hm, rfl⟩ := h.mem_slot x hx
  rw [(h.erase hn).keyAt_node (List.mem_filter.mpr ⟨hm, (h.id_ne_iff hn hm).mpr hne⟩), h.keyAt_node hm]

theorem keyAt_push_old (h : KIx keyed next u) {x : Nat} (hx : x ∈ u) {n : HNode} :
    keyAt (keyed ++ [n]) x = keyAt keyed x := by
  obtain ⟨m, hm, rfl⟩ := h.mem_slot x hx
  simp only [keyAt, List.find?_append, h.find_slot hm, Option.some_or]

theorem keyAt_push_new (h : KIx keyed next u) {i : Nat} (hi : i ∉ u) {id : Nat} {k : Key} :
    keyAt (keyed ++ [⟨id, k, i⟩]) i = k := by
  have : keyed.find? (fun n => n.slot == i) = none :=
    List.find?_eq_none.mpr (fun m hm => by simpa using fun (e : m.slot = i) => hi (e ▸ h.slot_mem m hm))
  simp [keyAt, List.find?_append, this]

/-! ### entries laid out by slot

`l` is any list whose members carry an in-use slot (`sl`), distinct ones distinct slots: the recency list
itself (`sl = id`), or the nodes of a second index.  `e` makes an entry of a member, keyed by `keyAt`. -/

section
variable {α : Type} {l : List α} {e : α → Entry}

theorem getE_map_some (h : KIx keyed next u) (sl : α → Nat) (hl : ∀ a ∈ l, sl a ∈ u)
    (he : ∀ a ∈ l, (e a).key = keyAt keyed (sl a)) {a : α} (ha : a ∈ l) (hinj : ∀ b ∈ l, sl b = sl a → b = a) :
    getE (l.map e) (keyAt keyed (sl a)) = some (e a) := by
  unfold getE
  rw [List.find?_map]
  exact congrArg (Option.map e) (find?_of_unique ha (decide_eq_true (he a ha)) fun b hb c =>
    hinj b hb (h.keyAt_inj (hl b hb) (hl a ha) ((he b hb).symm.trans (of_decide_eq_true c))))

theorem getE_map_none (h : KIx keyed next u) (sl : α → Nat) (hl : ∀ a ∈ l, sl a ∈ u)
    (he : ∀ a ∈ l, (e a).key = keyAt keyed (sl a)) {k : Key} (hk : ∀ n ∈ keyed, n.key ≠ k) :
    getE (l.map e) k = none := by
  rw [getE_eq_none_iff]
  intro hm
  obtain ⟨_, hen, rfl⟩ := List.mem_map.mp hm
  obtain ⟨a, ha, rfl⟩ := List.mem_map.mp hen
  obtain ⟨n, hn, hs⟩ := h.mem_slot _ (hl a ha)
  exact hk n hn (by rw [he a ha, ← hs, h.keyAt_node hn])

/-- `key` is `Entry.key` for `delE`, `Prod.snd` for the pairs of tlru's ttl structure, `id` for the keys of lfuda's
age list; `e'` is the entry function of the state after the edit. -/
theorem filter_key {β : Type} (key : β → Key) (sl : α → Nat) {e e' : α → β} (h : KIx keyed next u)
    (hl : ∀ a ∈ l, sl a ∈ u) (he : ∀ a ∈ l, key (e a) = keyAt keyed (sl a)) {x : Nat} (hx : x ∈ u)
    (hne : ∀ a ∈ l, sl a ≠ x → e' a = e a) :
    (l.map e).filter (fun y => !decide (key y = keyAt keyed x)) = (l.filter (fun a => !(sl a == x))).map e' := by
  have hf : ∀ a ∈ l, ((fun y => !decide (key y = keyAt keyed x)) ∘ e) a = !(sl a == x) := fun a ha => by
    simp only [Function.comp, he a ha, h.key_beq (hl a ha) hx]
  rw [List.filter_map, List.filter_congr hf]
  exact List.map_congr_left fun a ha => (hne a (mem_filter_ne.mp ha).1 (mem_filter_ne.mp ha).2).symm

end

end KIx

end Verif.L2
