import Verif.Concrete.Ttl
import Verif.Model.Ttl
import Verif.Proofs.ModelLemmas
import Verif.Proofs.L2.Lift
import Verif.Proofs.L2.Mem
/-!
# L2 `tlru_cache` / `utlru_cache`: no undefined behaviour on any history, refinement of the L1 models

Built as `Slot.lean` (see its header), with `do_update` and the `clean_expired_values` loop in addition.  What is new
is the ttl structure: a second index of nodes over the in-use slots (`Good.tix`), filed by deadline (`fileT`, in `abs`
the L1 `fileDl`: `map_fileT`), whose head `do_prune` and the loop look at (`ttlq_head`).
-/

namespace Verif.L2.Ttl
open Verif

/-- the nodes before `m_lru_end` -/
def usedPrefix (s : TState) : List Nat :=
  match s.lruEnd with
  | none => s.lruList
  | some e => s.lruList.takeWhile (fun x => !(x == e))

def keyOf (s : TState) (slot : Nat) : Key :=
  ((s.keyed.find? (fun n => n.slot == slot)).map (·.key)).getD 0

def entryOf (s : TState) (slot : Nat) : Entry :=
  { key := keyOf s slot, val := (s.slots.getD slot default).val, dl := (s.slots.getD slot default).expire }

/-- the L1 state: recency list reversed (L1 keeps least recently used first); ttl structure as
(deadline, key) pairs in the same order -/
def abs (s : TState) : TlruState :=
  { cap := s.slots.length, ttl := s.ttl,
    ents := (usedPrefix s).reverse.map (entryOf s),
    tq := s.ttlq.map (fun n => (dlOfNode s n, keyOf s n.slot)) }

def l1core : TKind → Core TlruState
  | .tlru => Tlru.core
  | .utlru => Utlru.core

def l1init (kind : TKind) (cap ttlMs : Nat) : TlruState :=
  match kind with
  | .tlru => Tlru.init cap
  | .utlru => Utlru.init cap ttlMs

/-- the constructor argument that matters: tlru has no configured TTL, and `CheckL2.L2S.init` builds it with
`Ttl.init .tlru c.cap 0` -/
def ttlArg (kind : TKind) (ttlMs : Nat) : Nat :=
  match kind with
  | .tlru => 0
  | .utlru => ttlMs

/-! ## the filing order of the ttl structure -/

theorem fileT_eq (s : TState) (q : List TNode) (n : TNode) (d : Time) :
    fileT s q n d = q.takeWhile (fun x => decide (dlOfNode s x ≤ d)) ++
      n :: q.dropWhile (fun x => decide (dlOfNode s x ≤ d)) :=
  file_eq (fileT s · n d) (fun x => dlOfNode s x ≤ d) rfl (fun _ _ => rfl) q

/-- `fileT` reads the state only through the deadlines of the nodes already filed -/
theorem fileT_congr {s s' : TState} {q : List TNode} (n : TNode) (d : Time)
    (h : ∀ x ∈ q, dlOfNode s x = dlOfNode s' x) : fileT s q n d = fileT s' q n d := by
  rw [fileT_eq, fileT_eq]
  exact file_congr (fun x hx => by rw [h x hx]) n

theorem fileT_perm (s : TState) (q : List TNode) (n : TNode) (d : Time) :
    (fileT s q n d).Perm (n :: q) := by
  rw [fileT_eq]; exact file_perm q n

/-- As `Slot.Good`, with the ttl structure: an `Ix` over the same in-use slots (`tids` … `mem_tslot`), its back
pointers `tit`, and `tdl`: a tlru node's multimap key is its slot's expiry (a utlru node has none). -/
structure Good (kind : TKind) (cap : Nat) (s : TState) (u f : List Nat) : Prop where
  kind : s.kind = kind
  ub : s.ub = false
  cpos : 0 < cap
  slen : s.slots.length = cap
  list : s.lruList = u ++ f
  nodup : (u ++ f).Nodup
  len : u.length + f.length = cap
  lt : ∀ x ∈ u ++ f, x < cap
  lend : s.lruEnd = f.head?
  used : s.used = u.length
  ids : s.keyed.Pairwise (fun a b => a.id ≠ b.id)
  idlt : ∀ n ∈ s.keyed, n.id < s.nextNode
  kkeys : s.keyed.Pairwise (fun a b => a.key ≠ b.key)
  kslots : s.keyed.Pairwise (fun a b => a.slot ≠ b.slot)
  slot_mem : ∀ n ∈ s.keyed, n.slot ∈ u
  mem_slot : ∀ x ∈ u, ∃ n ∈ s.keyed, n.slot = x
  its : ∀ n ∈ s.keyed, (s.slots.getD n.slot default).lruIt = n.slot ∧
    (s.slots.getD n.slot default).keyedIt = n.id
  tids : s.ttlq.Pairwise (fun a b => a.id ≠ b.id)
  tidlt : ∀ t ∈ s.ttlq, t.id < s.nextT
  tslots : s.ttlq.Pairwise (fun a b => a.slot ≠ b.slot)
  tslot_mem : ∀ t ∈ s.ttlq, t.slot ∈ u
  mem_tslot : ∀ x ∈ u, ∃ t ∈ s.ttlq, t.slot = x
  tit : ∀ t ∈ s.ttlq, (s.slots.getD t.slot default).ttlIt = t.id
  tdl : s.kind = .tlru → ∀ t ∈ s.ttlq, t.dl = (s.slots.getD t.slot default).expire

def Rel (kind : TKind) (cap : Nat) (s : TState) (t : TlruState) : Prop :=
  (∃ u f, Good kind cap s u f) ∧ abs s = t

section
variable {kind : TKind} {cap : Nat} {s : TState} {u f : List Nat}

theorem Good.part (h : Good kind cap s u f) : Part cap s.lruList s.lruEnd s.used u f :=
  ⟨h.list, h.nodup, h.len, h.lt, h.lend, h.used⟩

theorem Good.kix (h : Good kind cap s u f) : KIx s.keyed s.nextNode u :=
  ⟨⟨h.ids, h.idlt, h.kslots, h.slot_mem, h.mem_slot⟩, h.kkeys⟩

theorem Good.tix (h : Good kind cap s u f) : Ix TNode.id TNode.slot s.ttlq s.nextT u :=
  ⟨h.tids, h.tidlt, h.tslots, h.tslot_mem, h.mem_tslot⟩

theorem Good.of (hk : s.kind = kind) (hub : s.ub = false) (hc : 0 < cap) (hs : s.slots.length = cap)
    (p : Part cap s.lruList s.lruEnd s.used u f) (k : KIx s.keyed s.nextNode u)
    (its : ∀ n ∈ s.keyed, (s.slots.getD n.slot default).lruIt = n.slot ∧
      (s.slots.getD n.slot default).keyedIt = n.id)
    (t : Ix TNode.id TNode.slot s.ttlq s.nextT u)
    (tit : ∀ t ∈ s.ttlq, (s.slots.getD t.slot default).ttlIt = t.id)
    (tdl : s.kind = .tlru → ∀ t ∈ s.ttlq, t.dl = (s.slots.getD t.slot default).expire) : Good kind cap s u f :=
  ⟨hk, hub, hc, hs, p.list, p.nodup, p.len, p.lt, p.lend, p.used, k.ids, k.idlt, k.kkeys, k.slots, k.slot_mem,
    k.mem_slot, its, t.ids, t.idlt, t.slots, t.slot_mem, t.mem_slot, tit, tdl⟩

theorem Good.nodup_u (h : Good kind cap s u f) : u.Nodup := h.part.nodup_u

theorem Good.not_ub (h : Good kind cap s u f) : ¬ s.ub = true := ne_true_of_eq_false h.ub

theorem Good.lt_u (h : Good kind cap s u f) {x : Nat} (hx : x ∈ u) : x < s.slots.length := by
  rw [h.slen]; exact h.part.lt_u hx

theorem Good.slot_lt (h : Good kind cap s u f) {n : HNode} (hn : n ∈ s.keyed) : n.slot < s.slots.length :=
  h.lt_u (h.slot_mem n hn)

theorem Good.head_lt {i : Nat} {r : List Nat} (h : Good kind cap s u (i :: r)) : i < s.slots.length := by
  rw [h.slen]; exact h.lt i (List.mem_append_right _ (List.mem_cons_self ..))

theorem Good.ttlq_len (h : Good kind cap s u f) : s.ttlq.length = u.length := h.tix.length h.nodup_u

theorem Good.empty (h : Good kind cap s u f) (h0 : s.used = 0) : u = [] ∧ s.ttlq = [] :=
  have hu : u.length = 0 := h.used ▸ h0
  ⟨List.eq_nil_of_length_eq_zero hu, List.eq_nil_of_length_eq_zero (h.ttlq_len.trans hu)⟩

theorem Good.dlOfNode (h : Good kind cap s u f) {t : TNode} (ht : t ∈ s.ttlq) :
    dlOfNode s t = (s.slots.getD t.slot default).expire := by
  unfold Ttl.dlOfNode
  cases hk : s.kind with
  | tlru => exact h.tdl hk t ht
  | utlru => rfl

theorem Good.lruIt (h : Good kind cap s u f) {i : Nat} (hi : i ∈ u) : (s.slots.getD i default).lruIt = i := by
  obtain ⟨n, hn, rfl⟩ := h.mem_slot i hi
  exact (h.its n hn).1

theorem Good.perm (h : Good kind cap s u f) {u' : List Nat} (hp : u'.Perm u) :
    Good kind cap { s with lruList := u' ++ f } u' f :=
  Good.of h.kind h.ub h.cpos h.slen (h.part.perm hp) (h.kix.congr_u hp) h.its
    (h.tix.congr_u hp) h.tit h.tdl

end

/-! ## the abstraction of a good state -/

def pairOf (s : TState) (x : Nat) : Time × Key := ((entryOf s x).dl, (entryOf s x).key)

theorem pairOf_congr {s s' : TState} {x : Nat} (e : entryOf s' x = entryOf s x) : pairOf s' x = pairOf s x := by
  simp only [pairOf, e]

section
variable {kind : TKind} {cap : Nat} {s : TState} {u f : List Nat}

theorem usedPrefix_eq (h : Good kind cap s u f) : usedPrefix s = u :=
  h.part.usedPrefix

theorem abs_eq (h : Good kind cap s u f) :
    abs s = { cap := cap, ttl := s.ttl, ents := u.reverse.map (entryOf s),
              tq := s.ttlq.map (fun t => pairOf s t.slot) } := by
  unfold abs
  rw [usedPrefix_eq h, h.slen]
  congr 1
  apply List.map_congr_left
  intro t ht
  simp only [pairOf, entryOf, h.dlOfNode ht]

theorem abs_of {s' : TState} {u' f' : List Nat} (h' : Good kind cap s' u' f') {ttl : Nat}
    {ents : List Entry} {tq : List (Time × Key)} (ht : s'.ttl = ttl)
    (he : u'.reverse.map (entryOf s') = ents) (hq : s'.ttlq.map (fun t => pairOf s' t.slot) = tq) :
    abs s' = { cap := cap, ttl := ttl, ents := ents, tq := tq } := by
  rw [abs_eq h', ht, he, hq]

theorem abs_ents (h : Good kind cap s u f) : (abs s).ents = u.reverse.map (entryOf s) := by
  rw [abs_eq h]

theorem abs_cap (h : Good kind cap s u f) : (abs s).cap = cap := by
  rw [abs_eq h]

theorem abs_tq (h : Good kind cap s u f) : (abs s).tq = s.ttlq.map (fun t => pairOf s t.slot) := by
  rw [abs_eq h]

theorem keyOf_node (h : Good kind cap s u f) {n : HNode} (hn : n ∈ s.keyed) : keyOf s n.slot = n.key :=
  h.kix.keyAt_node hn

theorem entryOf_node (h : Good kind cap s u f) {n : HNode} (hn : n ∈ s.keyed) :
    entryOf s n.slot = { key := n.key, val := (s.slots.getD n.slot default).val,
                         dl := (s.slots.getD n.slot default).expire } := by
  simp only [entryOf, keyOf_node h hn]

theorem getE_abs_some (h : Good kind cap s u f) {k : Key} {n : HNode} (hf : findNode s k = some n) :
    getE (abs s).ents k = some (entryOf s n.slot) := by
  obtain ⟨hn, rfl⟩ := find?_key_some hf
  rw [abs_ents h, ← h.kix.keyAt_node hn]
  exact h.kix.getE_map_some id (fun _ hx => List.mem_reverse.mp hx) (fun _ _ => rfl)
    (List.mem_reverse.mpr (h.slot_mem n hn)) (fun _ _ e => e)

theorem getE_abs_none (h : Good kind cap s u f) {k : Key} (hf : findNode s k = none) :
    getE (abs s).ents k = none := by
  rw [abs_ents h]
  exact h.kix.getE_map_none id (fun _ hx => List.mem_reverse.mp hx) (fun _ _ => rfl) (find?_key_none hf)

theorem delE_abs (h : Good kind cap s u f) {n : HNode} (hn : n ∈ s.keyed) {s' : TState}
    (hne : ∀ x ∈ u, x ≠ n.slot → entryOf s' x = entryOf s x) :
    delE (abs s).ents n.key = (u.filter (fun x => !(x == n.slot))).reverse.map (entryOf s') := by
  rw [abs_ents h, ← h.kix.keyAt_node hn, ← List.filter_reverse]
  exact h.kix.filter_key Entry.key id (fun _ hx => List.mem_reverse.mp hx) (fun _ _ => rfl) (h.slot_mem n hn)
    (fun x hx => hne x (List.mem_reverse.mp hx))

theorem unfile_abs (h : Good kind cap s u f) {n : HNode} (hn : n ∈ s.keyed) {s' : TState}
    (hne : ∀ x ∈ u, x ≠ n.slot → entryOf s' x = entryOf s x) :
    Tlru.unfile (abs s).tq n.key =
      (s.ttlq.filter (fun t => !(t.slot == n.slot))).map (fun t => pairOf s' t.slot) := by
  rw [abs_tq h, ← h.kix.keyAt_node hn]
  exact h.kix.filter_key Prod.snd TNode.slot h.tslot_mem (fun _ _ => rfl) (h.slot_mem n hn)
    (fun t ht hne' => pairOf_congr (hne t.slot (h.tslot_mem t ht) hne'))

end

/-! ## `do_access` -/

/-- where `do_access` puts slot `i` within the in-use prefix -/
def acc (u : List Nat) (i : Nat) : List Nat := i :: u.filter (fun x => !(x == i))

theorem acc_perm {u : List Nat} {i : Nat} (hn : u.Nodup) (hi : i ∈ u) : (acc u i).Perm u :=
  LList.cons_filter_perm hn hi

section
variable {kind : TKind} {cap : Nat} {s : TState} {u f : List Nat}

theorem doAccess_eq (h : Good kind cap s u f) {i : Nat} (hi : i ∈ u) :
    doAccess s i = { s with lruList := acc u i ++ f } := by
  unfold doAccess
  simp only [h.lruIt hi, h.part.contains hi, Bool.not_true, Bool.false_eq_true, if_false]
  rw [h.part.splice_front hi]
  rfl

theorem Good.access (h : Good kind cap s u f) {i : Nat} (hi : i ∈ u) :
    Good kind cap (doAccess s i) (acc u i) f := by
  rw [doAccess_eq h hi]
  exact h.perm (acc_perm h.nodup_u hi)

/-- `s'` is `s`, or `s` with that slot rewritten -/
theorem doAccess_spec (h : Good kind cap s u f) {n : HNode} (hn : n ∈ s.keyed) {s' : TState}
    (h' : Good kind cap s' u f) (hne : ∀ x ∈ u, x ≠ n.slot → entryOf s' x = entryOf s x) :
    Rel kind cap (doAccess s' n.slot)
      { cap := (abs s').cap, ttl := (abs s').ttl, ents := delE (abs s).ents n.key ++ [entryOf s' n.slot],
        tq := (abs s').tq } := by
  have hu := h.slot_mem n hn
  have hg := h'.access hu
  refine ⟨⟨_, _, hg⟩, ?_⟩
  rw [doAccess_eq h' hu] at hg ⊢
  rw [abs_eq h', delE_abs h hn hne]
  refine abs_of hg rfl ?_ rfl
  simp only [acc, List.reverse_cons, List.map_append, List.map_cons, List.map_nil]
  rfl

end

/-! ## `do_erase` -/

def erased (s : TState) (u f : List Nat) (n : HNode) : TState :=
  { s with lruList := u.filter (fun x => !(x == n.slot)) ++ n.slot :: f,
           lruEnd := some n.slot,
           ttlq := s.ttlq.filter (fun m => !(m.slot == n.slot)),
           keyed := s.keyed.filter (fun m => !(m.id == n.id)),
           used := s.used - 1 }

section
variable {kind : TKind} {cap : Nat} {s : TState} {u f : List Nat}

theorem doErase_eq (h : Good kind cap s u f) {n : HNode} (hn : n ∈ s.keyed) : doErase s n.slot = erased s u f n := by
  have hu := h.slot_mem n hn
  obtain ⟨t, ht, hts⟩ := h.mem_tslot n.slot hu
  have hlt : ¬ n.slot ≥ s.slots.length := Nat.not_le.mpr (h.slot_lt hn)
  have htit : (s.slots.getD n.slot default).ttlIt = t.id := by rw [← hts]; exact h.tit t ht
  have hf : s.ttlq.filter (fun m => !(m.id == t.id)) = s.ttlq.filter (fun m => !(m.slot == n.slot)) := by
    rw [h.tix.filter_id ht, hts]
  obtain ⟨last, hprev, hl, hprev2⟩ := h.part.move_end hu
  unfold doErase
  simp only [hlt, if_false, hprev, (h.its n hn).1, h.part.contains hu, Bool.not_true, Bool.false_eq_true, hl,
    hprev2, any_label HNode.id hn, any_label TNode.id ht, (h.its n hn).2, htit, hf]
  rfl

theorem Good.erase (h : Good kind cap s u f) {n : HNode} (hn : n ∈ s.keyed) :
    Good kind cap (erased s u f n) (u.filter (fun x => !(x == n.slot))) (n.slot :: f) :=
  Good.of h.kind h.ub h.cpos h.slen (h.part.erase (h.slot_mem n hn)) (h.kix.erase hn)
    (fun m hm => h.its m (List.mem_filter.mp hm).1) (h.tix.erase_slot (h.slot_mem n hn))
    (fun m hm => h.tit m (List.mem_filter.mp hm).1) (fun hk m hm => h.tdl hk m (List.mem_filter.mp hm).1)

theorem entryOf_erased (h : Good kind cap s u f) {n : HNode} (hn : n ∈ s.keyed) {x : Nat} (hx : x ∈ u)
    (hne : x ≠ n.slot) : entryOf (erased s u f n) x = entryOf s x :=
  congrArg (fun k => ({ key := k, val := (s.slots.getD x default).val, dl := (s.slots.getD x default).expire } : Entry))
    (h.kix.keyAt_erase hn hx hne)

theorem abs_erased (h : Good kind cap s u f) {n : HNode} (hn : n ∈ s.keyed) :
    abs (erased s u f n) = Tlru.removeKey (abs s) n.key := by
  have hne := fun x hx hne => entryOf_erased h hn (x := x) hx hne
  rw [Tlru.removeKey, delE_abs h hn hne, unfile_abs h hn hne, abs_cap h]
  exact abs_of (h.erase hn) rfl rfl rfl

/-! ## `do_prune` -/

theorem ttlq_head (h : Good kind cap s u f) (hpos : 0 < s.used) :
    ∃ x rest n, s.ttlq = x :: rest ∧ n ∈ s.keyed ∧ n.slot = x.slot ∧
      (abs s).tq = (dlOfNode s x, n.key) :: rest.map (fun m => pairOf s m.slot) := by
  cases hq : s.ttlq with
  | nil =>
    have := h.ttlq_len
    rw [hq, ← h.used] at this
    exact absurd this.symm (Nat.ne_of_gt hpos)
  | cons x rest =>
    have hx : x ∈ s.ttlq := hq ▸ List.mem_cons_self ..
    obtain ⟨n, hn, hns⟩ := h.mem_slot x.slot (h.tslot_mem x hx)
    refine ⟨x, rest, n, rfl, hn, hns, ?_⟩
    rw [abs_tq h, hq, List.map_cons, h.dlOfNode hx, ← hns, ← keyOf_node h hn]
    rfl

theorem doPrune_spec (h : Good kind cap s u []) (now : Time) :
    ∃ n ∈ s.keyed, doPrune s now = erased s u [] n ∧ Tlru.prune (abs s) now = Tlru.removeKey (abs s) n.key := by
  have hpos : 0 < s.used := by rw [h.used, show u.length = cap from h.len]; exact h.cpos
  obtain ⟨x, rest, n, hq, hn, hns, htq⟩ := ttlq_head h hpos
  have hlt : ¬ x.slot ≥ s.slots.length := hns ▸ Nat.not_le.mpr (h.slot_lt hn)
  by_cases hd : dlOfNode s x ≤ now
  · refine ⟨n, hn, ?_, Tlru.prune_cons_le htq hd⟩
    unfold doPrune
    simp only [gt_iff_lt, hpos, if_true, hq, hlt, if_false, hd]
    rw [← hns]
    exact doErase_eq h hn
  · obtain ⟨i, hi, hiu⟩ := h.part.last hpos
    obtain ⟨m, hm, rfl⟩ := h.mem_slot i hiu
    refine ⟨m, hm, ?_, ?_⟩
    · have hl : s.lruList.getLast? = some m.slot := by rw [h.list, List.append_nil]; exact hi
      unfold doPrune
      simp only [gt_iff_lt, hpos, if_true, hq, hlt, if_false, hd, hl]
      exact doErase_eq h hm
    · obtain ⟨dd, rfl⟩ := List.getLast?_eq_some_iff.mp hi
      have he : (abs s).ents = entryOf s m.slot :: dd.reverse.map (entryOf s) := by
        rw [abs_ents h, List.reverse_append]; rfl
      rw [Tlru.prune_cons htq he, if_neg hd, entryOf_node h hm]

end

/-! ## `do_insert` -/

/-- the ttl node `do_insert` creates -/
def newT (s : TState) (d : Time) (idx : Nat) : TNode :=
  ⟨s.nextT, (match s.kind with | .tlru => d | .utlru => 0), idx⟩

/-- the state after claiming the first free slot `idx` for key `k` (before `do_access`) -/
def pushed (s : TState) (k : Key) (v : Val) (d : Time) (idx : Nat) : TState :=
  { s with slots := s.slots.set idx ⟨v, d, idx, s.nextT, s.nextNode⟩,
           keyed := s.keyed ++ [⟨s.nextNode, k, idx⟩], nextNode := s.nextNode + 1,
           ttlq := fileT { s with slots := s.slots.set idx ⟨v, d, idx, s.nextT, s.nextNode⟩ } s.ttlq
                     (newT s d idx) d,
           nextT := s.nextT + 1,
           lruEnd := LList.next s.lruList idx, used := s.used + 1 }

section
variable {kind : TKind} {cap : Nat} {s : TState} {u f : List Nat}

theorem Good.push {idx : Nat} {r : List Nat} (h : Good kind cap s u (idx :: r)) {k : Key}
    (hk : ∀ n ∈ s.keyed, n.key ≠ k) (v : Val) (d : Time) :
    Good kind cap (pushed s k v d idx) (u ++ [idx]) r := by
  have hidx : idx ∉ u := h.part.head_not_mem
  have hlt := h.head_lt
  have hq := fileT_perm { s with slots := s.slots.set idx ⟨v, d, idx, s.nextT, s.nextNode⟩ } s.ttlq (newT s d idx) d
  exact Good.of h.kind h.ub h.cpos (List.length_set.trans h.slen) h.part.push (h.kix.push hk hidx)
    (h.kix.back_add (fun (n : HNode) (y : TSlot) => y.lruIt = n.slot ∧ y.keyedIt = n.id) h.its hidx
      (List.perm_append_singleton _ _) rfl hlt ⟨rfl, rfl⟩)
    (h.tix.push (x := newT s d idx) rfl hidx hq)
    (h.tix.back_add (fun (t : TNode) (y : TSlot) => y.ttlIt = t.id) h.tit hidx hq rfl hlt rfl)
    (fun hkd => h.tix.back_add (fun (t : TNode) (y : TSlot) => t.dl = y.expire) (h.tdl hkd) hidx hq rfl hlt
      (by simp only [newT, show s.kind = .tlru from hkd]))

theorem entryOf_pushed_old {idx : Nat} {r : List Nat} (h : Good kind cap s u (idx :: r)) (k : Key) (v : Val)
    (d : Time) {x : Nat} (hx : x ∈ u) : entryOf (pushed s k v d idx) x = entryOf s x := by
  have hidx : idx ∉ u := h.part.head_not_mem
  -- `entryOf` finds the key the way `keyAt` does
  show Entry.mk (keyAt (s.keyed ++ [_]) x) ((s.slots.set idx _).getD x default).val
    ((s.slots.set idx _).getD x default).expire 0 0 0 = _
  rw [h.kix.keyAt_push_old hx, getD_set_ne (i := idx) (j := x) (fun e => hidx (e ▸ hx))]
  rfl

theorem entryOf_pushed_new {idx : Nat} {r : List Nat} (h : Good kind cap s u (idx :: r)) (k : Key) (v : Val)
    (d : Time) : entryOf (pushed s k v d idx) idx = { key := k, val := v, dl := d } := by
  show Entry.mk (keyAt (s.keyed ++ [_]) idx) ((s.slots.set idx _).getD idx default).val
    ((s.slots.set idx _).getD idx default).expire 0 0 0 = _
  rw [h.kix.keyAt_push_new h.part.head_not_mem, getD_set_self h.head_lt]

/-- the ttl structure of a good state whose last edit filed node `m` at deadline `d`, as the L1 `fileDl` -/
theorem map_fileT {s' : TState} {u' f' : List Nat} (h' : Good kind cap s' u' f') {s2 : TState}
    {q : List TNode} {m : TNode} {d : Time} (hq : s'.ttlq = fileT s2 q m d)
    (h2 : ∀ x, dlOfNode s2 x = dlOfNode s' x) {k : Key} (hm : pairOf s' m.slot = (d, k)) :
    s'.ttlq.map (fun t => pairOf s' t.slot) = Tlru.fileDl (q.map (fun t => pairOf s' t.slot)) d k := by
  rw [hq, fileT_eq, Tlru.fileDl_eq, ← hm]
  refine file_map _ (fun x hx => ?_) m
  have hx' : x ∈ s'.ttlq := hq ▸ (fileT_perm s2 q m d).mem_iff.mpr (List.mem_cons_of_mem _ hx)
  rw [h2, h'.dlOfNode hx']
  rfl

/-- `s1` is `s`, or `s` after `do_prune` -/
theorem doInsert_eq {s s1 : TState} {u1 r : List Nat} {idx : Nat} {now : Time}
    (h1 : Good kind cap s1 u1 (idx :: r))
    (hs1 : (if s.used ≥ s.slots.length then doPrune s now else s) = s1) {k : Key}
    (hk : ∀ n ∈ s1.keyed, n.key ≠ k) (v : Val) (d : Time) :
    doInsert s now k v d = { pushed s1 k v d idx with lruList := (idx :: u1) ++ r } := by
  have hend : s1.lruEnd = some idx := h1.lend
  unfold doInsert
  rw [hs1]
  show (if s1.ub = true then _ else _) = _
  rw [if_neg h1.not_ub]
  split
  · next hnone => rw [hend] at hnone; cases hnone
  · next idx' he =>
    rw [hend] at he
    cases he
    rw [if_neg (Nat.not_le.mpr h1.head_lt)]
    show doAccess (pushed s1 k v d idx) idx = _
    rw [doAccess_eq (h1.push hk v d) (List.mem_append_right _ (List.mem_singleton_self _)),
      show acc (u1 ++ [idx]) idx = idx :: u1 from congrArg (idx :: ·) (LList.filter_ne_snoc h1.part.head_not_mem)]

/-- the insert proper, after the optional prune (`s1` as in `doInsert_eq`) -/
theorem finish_spec {s s1 : TState} {u1 r : List Nat} {idx : Nat} {now : Time}
    (h1 : Good kind cap s1 u1 (idx :: r))
    (hs1 : (if s.used ≥ s.slots.length then doPrune s now else s) = s1) {k : Key}
    (hk : ∀ n ∈ s1.keyed, n.key ≠ k) (v : Val) (d : Time) :
    Rel kind cap (doInsert s now k v d) (Tlru.pushed (abs s1) k v d) := by
  have h2 := h1.push hk v d
  have hg := h2.perm (u' := idx :: u1) (List.perm_append_singleton _ _).symm
  have hnew := entryOf_pushed_new h1 k v d
  rw [doInsert_eq h1 hs1 hk v d, abs_eq h1]
  refine ⟨⟨_, _, hg⟩, abs_of hg rfl ?_ ?_⟩
  · show (idx :: u1).reverse.map (entryOf (pushed s1 k v d idx)) = _ ++ [_]
    rw [List.reverse_cons, List.map_append, List.map_cons, List.map_nil, hnew]
    exact congrArg (· ++ _) (List.map_congr_left fun x hx => entryOf_pushed_old h1 k v d (List.mem_reverse.mp hx))
  · show (pushed s1 k v d idx).ttlq.map (fun t => pairOf (pushed s1 k v d idx) t.slot) = Tlru.fileDl _ d k
    rw [map_fileT h2 rfl (fun _ => rfl) (show pairOf _ idx = (d, k) by rw [pairOf, hnew])]
    exact congrArg (Tlru.fileDl · d k)
      (List.map_congr_left fun t ht => pairOf_congr (entryOf_pushed_old h1 k v d (h1.tslot_mem t ht)))

theorem doInsert_spec (h : Good kind cap s u f) {k : Key} (hk : ∀ n ∈ s.keyed, n.key ≠ k) (now : Time)
    (v : Val) (d : Time) :
    Rel kind cap (doInsert s now k v d)
      (Tlru.pushed (if (abs s).ents.length ≥ (abs s).cap then Tlru.prune (abs s) now else abs s) k v d) := by
  have hc : (abs s).ents.length ≥ (abs s).cap ↔ s.used ≥ s.slots.length := by
    rw [abs_ents h, abs_cap h, List.length_map, List.length_reverse, h.used, h.slen]
  by_cases hfull : s.used ≥ s.slots.length
  · obtain rfl := h.part.full (h.slen ▸ hfull)
    obtain ⟨n, hn, hpr, hl1⟩ := doPrune_spec h now
    rw [if_pos (hc.mpr hfull), hl1, ← abs_erased h hn]
    exact finish_spec (h.erase hn) ((if_pos hfull).trans hpr) (fun m hm => hk m (List.mem_filter.mp hm).1) v d
  · obtain ⟨idx, r, rfl⟩ := h.part.not_full (h.slen ▸ hfull)
    rw [if_neg (mt hc.mp hfull)]
    exact finish_spec h (if_neg hfull) hk v d

end

/-! ## `do_update` -/

def rewritten (s : TState) (idx : Nat) (v : Val) (d : Time) (it : Nat) : TSlot :=
  { s.slots.getD idx default with val := v, expire := d, ttlIt := it }

/-- the state `do_update` reaches before its `do_access`, for either kind: `m` is the ttl node it files, `nT` the
next identity -/
def refiled (s : TState) (idx : Nat) (v : Val) (d : Time) (m : TNode) (nT : Nat) : TState :=
  { s with slots := s.slots.set idx (rewritten s idx v d m.id),
           ttlq := fileT { s with slots := s.slots.set idx (rewritten s idx v d m.id) }
                     (s.ttlq.filter (fun n => !(n.slot == idx))) m d,
           nextT := nT }

/-- tlru erases the ttl node and emplaces a new one, utlru re-files the same node -/
def upd (s : TState) (idx : Nat) (v : Val) (d : Time) (old : TNode) : TState :=
  match s.kind with
  | .tlru => refiled s idx v d ⟨s.nextT, d, idx⟩ (s.nextT + 1)
  | .utlru => refiled s idx v d old s.nextT

section
variable {kind : TKind} {cap : Nat} {s : TState} {u f : List Nat}

/-- `hm2`–`hm4`: the identity of `m` is that of `old` (utlru re-files `old` itself) or a new one (tlru takes `nextT`) -/
theorem Good.refile (h : Good kind cap s u f) {idx : Nat} {v : Val} {d : Time} {old m : TNode} {nT : Nat}
    (hold : old ∈ s.ttlq) (hos : old.slot = idx) (hm1 : m.slot = idx)
    (hm2 : ∀ x ∈ s.ttlq, x.id ≠ old.id → x.id ≠ m.id) (hm3 : m.id < nT) (hm4 : s.nextT ≤ nT)
    (hm5 : s.kind = .tlru → m.dl = d) :
    Good kind cap (refiled s idx v d m nT) u f := by
  have hidx : idx ∈ u := hos ▸ h.tslot_mem old hold
  have hlt : idx < s.slots.length := h.lt_u hidx
  have hq := fileT_perm { s with slots := s.slots.set idx (rewritten s idx v d m.id) }
    (s.ttlq.filter (fun n => !(n.slot == idx))) m d
  have hs : m.slot ∉ u.filter (fun x => !(x == idx)) := hm1 ▸ LList.not_mem_filter_ne u _
  have hrest : ∀ (P : TNode → Prop), (∀ x ∈ s.ttlq, P x) → ∀ x ∈ s.ttlq.filter (fun n => !(n.slot == idx)), P x :=
    fun _ hP x hx => hP x (List.mem_filter.mp hx).1
  exact Good.of h.kind h.ub h.cpos (List.length_set.trans h.slen) h.part h.kix
    (back_set (fun (n : HNode) (y : TSlot) => y.lruIt = n.slot ∧ y.keyedIt = n.id) h.its (fun _ => Iff.rfl))
    (h.tix.refile hold (hm1.trans hos.symm) hm2 hm3 hm4 (by rw [h.tix.filter_id hold, hos]; exact hq))
    ((h.tix.erase_slot hidx).back_add (fun (t : TNode) (y : TSlot) => y.ttlIt = t.id) (hrest _ h.tit) hs hq hm1
      hlt rfl)
    (fun hkd => (h.tix.erase_slot hidx).back_add (fun (t : TNode) (y : TSlot) => t.dl = y.expire)
      (hrest _ (h.tdl hkd)) hs hq hm1 hlt (hm5 hkd))

theorem doUpdate_eq (h : Good kind cap s u f) {old : TNode} (hold : old ∈ s.ttlq) (v : Val) (d : Time) :
    doUpdate s old.slot v d = doAccess (upd s old.slot v d old) old.slot := by
  have hlt : ¬ old.slot ≥ s.slots.length := Nat.not_le.mpr (h.lt_u (h.tslot_mem old hold))
  have htit := h.tit old hold
  have hfind := h.tix.find_id hold
  unfold doUpdate upd refiled rewritten
  simp only [hlt, if_false, htit, hfind, h.tix.filter_id hold]
  cases s.kind <;> rfl

theorem refiled_spec (h : Good kind cap s u f) {n : HNode} (hn : n ∈ s.keyed) {m : TNode} {v : Val} {d : Time}
    {nT : Nat} (hr : Good kind cap (refiled s n.slot v d m nT) u f) (hm1 : m.slot = n.slot) :
    Rel kind cap (doAccess (refiled s n.slot v d m nT) n.slot) (Tlru.update (abs s) (entryOf s n.slot) v d) := by
  have hself : entryOf (refiled s n.slot v d m nT) n.slot = { key := n.key, val := v, dl := d } := by
    rw [entryOf, keyOf_node hr hn]
    simp only [refiled, getD_set_self (h.slot_lt hn), rewritten]
  have hne : ∀ x ∈ u, x ≠ n.slot → entryOf (refiled s n.slot v d m nT) x = entryOf s x := fun x _ hx => by
    simp only [entryOf, refiled, keyOf, getD_set_ne (fun e => hx e.symm)]
  obtain ⟨hg, ha⟩ := doAccess_spec h hn hr hne
  refine ⟨hg, ?_⟩
  rw [ha, Tlru.update, entryOf_node h hn, unfile_abs h hn hne, hself, abs_tq hr, abs_cap hr, abs_cap h,
    map_fileT hr rfl (fun _ => rfl) (show pairOf _ m.slot = (d, n.key) by rw [hm1, pairOf, hself])]
  rfl

theorem doUpdate_spec (h : Good kind cap s u f) {n : HNode} (hn : n ∈ s.keyed) (v : Val) (d : Time) :
    Rel kind cap (doUpdate s n.slot v d) (Tlru.update (abs s) (entryOf s n.slot) v d) := by
  obtain ⟨old, hold, hos⟩ := h.mem_tslot n.slot (h.slot_mem n hn)
  rw [show doUpdate s n.slot v d = _ from hos ▸ doUpdate_eq h hold v d]
  unfold upd
  cases hk : s.kind with
  | tlru =>
    exact refiled_spec h hn (h.refile hold hos rfl (fun x hx _ => Nat.ne_of_lt (h.tidlt x hx)) (Nat.lt_succ_self _)
      (Nat.le_succ _) (fun _ => rfl)) rfl
  | utlru =>
    exact refiled_spec h hn (h.refile hold hos hos (fun x _ hne => hne) (h.tidlt old hold) (Nat.le_refl _)
      (fun hk' => nomatch hk.symm.trans hk')) hos

end

/-! ## the single-key primitives, case by case -/

section
variable {s : TState}

theorem insert1_none (hub : s.ub = false) {k : Key} (hf : findNode s k = none) (now : Time) (v : Val) (a : Allow)
    (d : Time) : insert1 s now k v a d = if a.ins then (doInsert s now k v d, true) else (s, false) := by
  simp only [insert1, hub, hf, Bool.false_eq_true, if_false]

theorem insert1_some (hub : s.ub = false) {k : Key} {n : HNode} (hf : findNode s k = some n)
    (hlt : n.slot < s.slots.length) (now : Time) (v : Val) (a : Allow) (d : Time) :
    insert1 s now k v a d =
      if a.upd = true ∨ (a.ins = true ∧ (s.slots.getD n.slot default).expire ≤ now) then
        (doUpdate s n.slot v d, true)
      else (s, false) := by
  simp only [insert1, hub, hf, Bool.false_eq_true, if_false, Nat.not_le.mpr hlt]
  exact ite_or_and _ _

theorem find1_none (hub : s.ub = false) {k : Key} (hf : findNode s k = none) (now : Time) (peek : Bool) :
    find1 s now k peek = (s, none) := by
  simp only [find1, hub, hf, Bool.false_eq_true, if_false]

theorem find1_some (hub : s.ub = false) {k : Key} {n : HNode} (hf : findNode s k = some n)
    (hlt : n.slot < s.slots.length) (now : Time) (peek : Bool) :
    find1 s now k peek =
      if now < (s.slots.getD n.slot default).expire then
        (if peek then s else doAccess s n.slot, some ((s.slots.getD n.slot default).val, 0))
      else (doErase s n.slot, none) := by
  simp only [find1, hub, hf, Bool.false_eq_true, if_false, Nat.not_le.mpr hlt]

theorem erase1_none (hub : s.ub = false) {k : Key} (hf : findNode s k = none) : erase1 s k = (s, false) := by
  simp only [erase1, hub, hf, Bool.false_eq_true, if_false]

theorem erase1_some (hub : s.ub = false) {k : Key} {n : HNode} (hf : findNode s k = some n) :
    erase1 s k = (doErase s n.slot, true) := by
  simp only [erase1, hub, hf, Bool.false_eq_true, if_false]

end

section
variable {kind : TKind} {cap : Nat} {s : TState} {u f : List Nat}

theorem rel_self (h : Good kind cap s u f) : Rel kind cap s (abs s) := ⟨⟨u, f, h⟩, rfl⟩

theorem sim_insert1 (h : Good kind cap s u f) (now : Time) (k : Key) (v : Val) (a : Allow) (d : Time) :
    (insert1 s now k v a d).2 = (Tlru.insert1 (abs s) now k v a d).2 ∧
    Rel kind cap (insert1 s now k v a d).1 (Tlru.insert1 (abs s) now k v a d).1 := by
  cases hf : findNode s k with
  | none =>
    rw [insert1_none h.ub hf, Tlru.insert1_none (getE_abs_none h hf)]
    cases a.ins
    · exact ⟨rfl, rel_self h⟩
    · exact ⟨rfl, doInsert_spec h (find?_key_none hf) now v d⟩
  | some n =>
    obtain ⟨hn, rfl⟩ := find?_key_some hf
    have hdl : (entryOf s n.slot).dl = (s.slots.getD n.slot default).expire := rfl
    rw [insert1_some h.ub hf (h.slot_lt hn), Tlru.insert1_some (getE_abs_some h hf), hdl]
    by_cases hc : a.upd = true ∨ (a.ins = true ∧ (s.slots.getD n.slot default).expire ≤ now)
    · rw [if_pos hc, if_pos hc]
      exact ⟨rfl, doUpdate_spec h hn v d⟩
    · rw [if_neg hc, if_neg hc]
      exact ⟨rfl, rel_self h⟩

theorem sim_find1 (h : Good kind cap s u f) (now : Time) (k : Key) (peek : Bool) :
    (find1 s now k peek).2 = (Tlru.find1 (abs s) now k peek).2 ∧
    Rel kind cap (find1 s now k peek).1 (Tlru.find1 (abs s) now k peek).1 := by
  cases hf : findNode s k with
  | none =>
    rw [find1_none h.ub hf, Tlru.find1_none (getE_abs_none h hf)]
    exact ⟨rfl, rel_self h⟩
  | some n =>
    obtain ⟨hn, rfl⟩ := find?_key_some hf
    have hdl : (entryOf s n.slot).dl = (s.slots.getD n.slot default).expire := rfl
    rw [find1_some h.ub hf (h.slot_lt hn), Tlru.find1_some (getE_abs_some h hf), hdl]
    by_cases hlive : now < (s.slots.getD n.slot default).expire
    · rw [if_pos hlive, if_pos hlive]
      cases peek
      · exact ⟨rfl, doAccess_spec h hn h (fun _ _ _ => rfl)⟩
      · exact ⟨rfl, rel_self h⟩
    · rw [if_neg hlive, if_neg hlive, doErase_eq h hn]
      exact ⟨rfl, ⟨_, _, h.erase hn⟩, abs_erased h hn⟩

theorem sim_erase1 (h : Good kind cap s u f) (k : Key) :
    (erase1 s k).2 = (Tlru.erase1 (abs s) k).2 ∧ Rel kind cap (erase1 s k).1 (Tlru.erase1 (abs s) k).1 := by
  cases hf : findNode s k with
  | none =>
    rw [erase1_none h.ub hf, Tlru.erase1_none (getE_abs_none h hf)]
    exact ⟨rfl, rel_self h⟩
  | some n =>
    obtain ⟨hn, rfl⟩ := find?_key_some hf
    rw [erase1_some h.ub hf, Tlru.erase1_some (getE_abs_some h hf), doErase_eq h hn]
    exact ⟨rfl, ⟨_, _, h.erase hn⟩, abs_erased h hn⟩

end

/-! ## `clean_expired_values` -/

theorem tq_erased_head {kind : TKind} {cap : Nat} {s : TState} {u f : List Nat} (h : Good kind cap s u f)
    {x : TNode} {rest : List TNode} (hq : s.ttlq = x :: rest) {n : HNode} (hn : n ∈ s.keyed)
    (hns : n.slot = x.slot) :
    (Tlru.removeKey (abs s) n.key).tq = rest.map (fun m => pairOf s m.slot) := by
  show Tlru.unfile (abs s).tq n.key = _
  rw [unfile_abs h hn (fun _ _ _ => rfl), hq, hns, filter_label_head (g := TNode.slot) (hq ▸ h.tslots)]

/-- the fuel suffices since every round takes a node out -/
theorem cleanLoop_spec {kind : TKind} {cap : Nat} (now : Time) :
    ∀ (fuel : Nat) (s : TState) (u f : List Nat) (c : Nat), Good kind cap s u f → s.ttlq.length < fuel →
      (cleanLoop now fuel s c).2 = c + (Tlru.clean (abs s) now).2 ∧
      Rel kind cap (cleanLoop now fuel s c).1 (Tlru.clean (abs s) now).1 := by
  intro fuel
  induction fuel with
  | zero => intro s u f c _ hl; exact absurd hl (Nat.not_lt_zero _)
  | succ fuel ih =>
    intro s u f c h hl
    -- one round of the loop by `show`, in place of `unfold cleanLoop`, which would have Lean derive the equation lemmas
    -- of the recursion
    show Prod.snd (if s.ub = true then _ else _) = _ ∧ Rel kind cap (Prod.fst (if s.ub = true then _ else _)) _
    rw [if_neg h.not_ub]
    by_cases hused : s.used = 0
    · rw [if_pos hused, Tlru.clean_nil (congrArg (List.map _) (h.empty hused).2)]
      exact ⟨rfl, rel_self h⟩
    · obtain ⟨x, rest, n, hq, hn, hns, htq⟩ := ttlq_head h (Nat.pos_of_ne_zero hused)
      have hlt : ¬ x.slot ≥ s.slots.length := hns ▸ Nat.not_le.mpr (h.slot_lt hn)
      rw [if_neg hused]
      simp only [hq]
      rw [if_neg hlt]
      by_cases hd : dlOfNode s x ≤ now
      · have hr : (erased s u f n).ttlq = rest := by
          show s.ttlq.filter _ = rest
          rw [hq, hns]
          exact filter_label_head (g := TNode.slot) (hq ▸ h.tslots)
        obtain ⟨hC, hR⟩ := ih (erased s u f n) _ _ (c + 1) (h.erase hn)
          (by rw [hr]; rw [hq] at hl; exact Nat.lt_of_succ_lt_succ hl)
        rw [abs_erased h hn] at hR hC
        rw [if_pos hd, ← hns, doErase_eq h hn, Tlru.clean_cons_le htq hd (tq_erased_head h hq hn hns), hC]
        exact ⟨by rw [Nat.add_assoc, Nat.add_comm 1], hR⟩
      · rw [if_neg hd, Tlru.clean_cons_gt htq hd]
        exact ⟨rfl, rel_self h⟩

section
variable {kind : TKind} {cap : Nat} {s : TState} {u f : List Nat}

theorem sim_clean (h : Good kind cap s u f) (now : Time) :
    (clean s now).2 = (Tlru.clean (abs s) now).2 ∧ Rel kind cap (clean s now).1 (Tlru.clean (abs s) now).1 := by
  unfold clean
  rw [if_neg h.not_ub]
  obtain ⟨hC, hR⟩ := cleanLoop_spec now (s.ttlq.length + 1) s u f 0 h (Nat.lt_succ_self _)
  exact ⟨hC.trans (Nat.zero_add _), hR⟩

/-! ## `clear`, `update_ttl` -/

theorem Good.setTtl (h : Good kind cap s u f) (x : Nat) : Good kind cap { s with ttl := x } u f :=
  Good.of h.kind h.ub h.cpos h.slen h.part h.kix h.its h.tix h.tit h.tdl

/-- the state `init` builds and `clear()` goes back to: nothing in use -/
theorem good_nil (kind : TKind) {cap : Nat} (hcap : 0 < cap) (s : TState) (hk : s.kind = kind)
    (hub : s.ub = false) (hs : s.slots.length = cap) :
    Good kind cap { s with lruList := List.range cap, lruEnd := (List.range cap).head?, keyed := [],
                           ttlq := [], used := 0 } [] (List.range cap) :=
  Good.of hk hub hcap hs (Part.init cap) KIx.nil (fun _ hn => absurd hn List.not_mem_nil) Ix.nil
    (fun _ hn => absurd hn List.not_mem_nil) (fun _ _ hn => absurd hn List.not_mem_nil)

theorem sim_clear (h : Good kind cap s u f) :
    Rel kind cap (clear s) { abs s with ents := [], tq := [] } := by
  unfold clear
  rw [if_neg h.not_ub]
  by_cases hpos : s.used > 0
  · rw [if_pos hpos, h.part.length]
    have hg := good_nil kind h.cpos s h.kind h.ub h.slen
    refine ⟨⟨_, _, hg⟩, ?_⟩
    rw [abs_eq h]
    exact abs_of hg rfl rfl rfl
  · obtain ⟨hu, hq⟩ := h.empty (Nat.eq_zero_of_not_pos hpos)
    rw [if_neg hpos]
    refine ⟨⟨u, f, h⟩, ?_⟩
    rw [abs_eq h, hq, hu]
    rfl

end

/-! ## every history -/

theorem good_init (kind : TKind) {cap : Nat} (hcap : 0 < cap) (ttlMs : Nat) :
    Good kind cap (init kind cap ttlMs) [] (List.range cap) :=
  good_nil kind hcap (init kind cap ttlMs) rfl rfl (List.length_replicate ..)

theorem abs_init (kind : TKind) (cap ttlMs : Nat) :
    abs (init kind cap (ttlArg kind ttlMs)) = l1init kind cap ttlMs := by
  have e : abs (init kind cap (ttlArg kind ttlMs)) = ⟨cap, ttlArg kind ttlMs * msNs, [], []⟩ := by
    cases cap with
    | zero => rfl
    | succ n => rw [abs_eq (good_init kind (Nat.succ_pos n) _)]; rfl
  rw [e]
  cases kind
  · exact congrArg (TlruState.mk cap · [] []) (Nat.zero_mul msNs)
  · rfl

theorem sim (kind : TKind) (cap : Nat) : SimC (coreOf kind) (l1core kind) (Rel kind cap) where
  pre _ _ _ hr := by cases kind <;> exact hr
  insert1 := by
    rintro s _ now k v a ttl ⟨⟨u, f, h⟩, rfl⟩
    cases kind
    · exact sim_insert1 h now k v a (now + ttl * msNs)
    · exact sim_insert1 h now k v a (now + s.ttl)
  find1 := by
    rintro s _ now k peek ⟨⟨u, f, h⟩, rfl⟩
    cases kind <;> exact sim_find1 h now k peek
  erase1 := by
    rintro s _ k ⟨⟨u, f, h⟩, rfl⟩
    cases kind <;> exact sim_erase1 h k
  hasClear := by cases kind <;> rfl
  clear := by
    rintro hc s _ ⟨⟨u, f, h⟩, rfl⟩
    cases kind
    · cases hc
    · exact sim_clear h
  clean := by
    rintro s _ now ⟨⟨u, f, h⟩, rfl⟩
    cases kind <;> exact sim_clean h now
  age _ _ _ hr := by cases kind <;> exact ⟨rfl, hr⟩
  updateTtl := by
    rintro s _ x ⟨⟨u, f, h⟩, rfl⟩
    cases kind
    · exact rel_self h
    · show Rel _ _ (if s.ub = true then s else { s with ttl := x * msNs }) _
      rw [if_neg h.not_ub]
      exact ⟨⟨u, f, h.setTtl _⟩, rfl⟩
  size := by
    rintro s _ ⟨⟨u, f, h⟩, rfl⟩
    have : s.used = (abs s).ents.length := by rw [abs_ents h, h.used, List.length_map, List.length_reverse]
    cases kind <;> exact this
  capacity := by
    rintro s _ ⟨_, rfl⟩
    cases kind <;> rfl

theorem run_good {kind : TKind} {cap : Nat} {s : TState} (h : ∃ u f, Good kind cap s u f)
    (ops : List (Time × Op)) :
    (∃ u f, Good kind cap ((coreOf kind).run s ops).1 u f) ∧
    ((coreOf kind).run s ops).2 = ((l1core kind).run (abs s) ops).2 ∧
    abs ((coreOf kind).run s ops).1 = ((l1core kind).run (abs s) ops).1 :=
  (sim kind cap).toSim2.run_abs h ops

/-- **C08 (model part), tlru_cache and utlru_cache**: the slot/iterator-level model never dereferences `end()` or
`begin()` of an empty ttl structure, never decrements `begin()`, never indexes out of range, never erases or
splices through a stale iterator. -/
theorem no_ub (kind : TKind) (cap ttlMs : Nat) (hcap : 0 < cap) (ops : List (Time × Op)) :
    ((coreOf kind).run (init kind cap (ttlArg kind ttlMs)) ops).1.ub = false := by
  obtain ⟨⟨u, f, h⟩, _⟩ := run_good ⟨_, _, good_init kind hcap (ttlArg kind ttlMs)⟩ ops
  exact h.ub

/-- same results as the L1 model on every history; the L2 state abstracts to the L1 state -/
theorem refines_l1 (kind : TKind) (cap ttlMs : Nat) (hcap : 0 < cap) (ops : List (Time × Op)) :
    ((coreOf kind).run (init kind cap (ttlArg kind ttlMs)) ops).2 = ((l1core kind).run (l1init kind cap ttlMs) ops).2 ∧
    abs ((coreOf kind).run (init kind cap (ttlArg kind ttlMs)) ops).1 = ((l1core kind).run (l1init kind cap ttlMs) ops).1 := by
  have h := run_good ⟨_, _, good_init kind hcap (ttlArg kind ttlMs)⟩ ops
  rw [abs_init] at h
  exact h.2

end Verif.L2.Ttl
