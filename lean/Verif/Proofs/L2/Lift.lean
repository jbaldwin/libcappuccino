import Verif.Basic
/-!
# One-step simulation between two `Core`s, lifted to `Core.step` and `Core.run`

There are three structures because the models differ in `clear()`:
* `Sim2`: one field for `Op.clear` as `Core.step` executes it (`if hasClear then clear s else s`); the lift is
  proved for this form;
* `Sim`: neither side has `clear()` (lru, mru, fifo, lfu, lfuda, rr);
* `SimC`: both sides have it or neither (tlru has none, utlru and ut_map have one).

`Sim` and `SimC` are what a container file fills in, and exist only to be converted by `toSim2`: in all six container
files every history is `sim.toSim2.run_abs`.  `Sim2` is declared in namespace `Verif.L2.UtMap`, `Sim` and `SimC` in
`Verif`.
-/
namespace Verif.L2.UtMap

structure Sim2 {σ τ : Type} (c : Core σ) (d : Core τ) (R : σ → τ → Prop) : Prop where
  pre : ∀ s t now, R s t → R (c.pre s now) (d.pre t now)
  insert1 : ∀ s t now k v a ttl, R s t →
    (c.insert1 s now k v a ttl).2 = (d.insert1 t now k v a ttl).2 ∧
    R (c.insert1 s now k v a ttl).1 (d.insert1 t now k v a ttl).1
  find1 : ∀ s t now k peek, R s t →
    (c.find1 s now k peek).2 = (d.find1 t now k peek).2 ∧
    R (c.find1 s now k peek).1 (d.find1 t now k peek).1
  erase1 : ∀ s t k, R s t →
    (c.erase1 s k).2 = (d.erase1 t k).2 ∧ R (c.erase1 s k).1 (d.erase1 t k).1
  clear : ∀ s t, R s t → R (if c.hasClear then c.clear s else s) (if d.hasClear then d.clear t else t)
  clean : ∀ s t now, R s t → (c.clean s now).2 = (d.clean t now).2 ∧ R (c.clean s now).1 (d.clean t now).1
  age : ∀ s t now, R s t → (c.age s now).2 = (d.age t now).2 ∧ R (c.age s now).1 (d.age t now).1
  updateTtl : ∀ s t x, R s t → R (c.updateTtl s x) (d.updateTtl t x)
  size : ∀ s t, R s t → c.size s = d.size t
  capacity : ∀ s t, R s t → c.capacity s = d.capacity t

namespace Sim2
variable {σ τ : Type} {c : Core σ} {d : Core τ} {R : σ → τ → Prop}

theorem insertMany (h : Sim2 c d R) (now : Time) (a : Allow) (xs : List (Key × Val × Nat)) :
    ∀ s t, R s t → (c.insertMany s now a xs).2 = (d.insertMany t now a xs).2 ∧
      R (c.insertMany s now a xs).1 (d.insertMany t now a xs).1 := by
  induction xs with
  | nil => exact fun _ _ hr => ⟨rfl, hr⟩
  | cons x xs ih =>
    obtain ⟨k, v, ttl⟩ := x
    intro s t hr
    have h1 := h.insert1 s t now k v a ttl hr
    have h2 := ih _ _ h1.2
    refine ⟨?_, h2.2⟩
    show (if (c.insert1 s now k v a ttl).2 then 1 else 0) + _ = (if (d.insert1 t now k v a ttl).2 then 1 else 0) + _
    rw [h1.1, h2.1]

theorem findMany (h : Sim2 c d R) (now : Time) (peek : Bool) (ks : List Key) :
    ∀ s t, R s t → (c.findMany s now peek ks).2 = (d.findMany t now peek ks).2 ∧
      R (c.findMany s now peek ks).1 (d.findMany t now peek ks).1 := by
  induction ks with
  | nil => exact fun _ _ hr => ⟨rfl, hr⟩
  | cons k ks ih =>
    intro s t hr
    have h1 := h.find1 s t now k peek hr
    have h2 := ih _ _ h1.2
    refine ⟨?_, h2.2⟩
    show (c.find1 s now k peek).2.map (·.1) :: _ = (d.find1 t now k peek).2.map (·.1) :: _
    rw [h1.1, h2.1]

theorem eraseMany (h : Sim2 c d R) (ks : List Key) :
    ∀ s t, R s t → (c.eraseMany s ks).2 = (d.eraseMany t ks).2 ∧
      R (c.eraseMany s ks).1 (d.eraseMany t ks).1 := by
  induction ks with
  | nil => exact fun _ _ hr => ⟨rfl, hr⟩
  | cons k ks ih =>
    intro s t hr
    have h1 := h.erase1 s t k hr
    have h2 := ih _ _ h1.2
    refine ⟨?_, h2.2⟩
    show (if (c.erase1 s k).2 then 1 else 0) + _ = (if (d.erase1 t k).2 then 1 else 0) + _
    rw [h1.1, h2.1]

theorem step (h : Sim2 c d R) (s : σ) (t : τ) (now : Time) (op : Op) (hr : R s t) :
    (c.step s now op).2 = (d.step t now op).2 ∧ R (c.step s now op).1 (d.step t now op).1 := by
  have hp := h.pre s t now hr
  cases op with
  | insert k v a ttl => exact (h.insert1 _ _ now k v a ttl hp).imp (congrArg Out.bool) id
  | insertRange xs a => exact (h.insertMany now a xs _ _ hp).imp (congrArg Out.nat) id
  | find k peek => exact (h.find1 _ _ now k peek hp).imp (congrArg fun (o : Option (Val × Nat)) => Out.opt (o.map Prod.fst)) id
  | findRange ks peek => exact (h.findMany now peek ks _ _ hp).imp (congrArg Out.opts) id
  | findCount k peek => exact (h.find1 _ _ now k peek hp).imp (congrArg Out.optc) id
  | erase k => exact (h.erase1 _ _ k hp).imp (congrArg Out.bool) id
  | eraseRange ks => exact (h.eraseMany ks _ _ hp).imp (congrArg Out.nat) id
  | clear => exact ⟨rfl, h.clear s t hr⟩
  | clean => exact (h.clean s t now hr).imp (congrArg Out.nat) id
  | age => exact (h.age s t now hr).imp (congrArg Out.nat) id
  | updateTtl x => exact ⟨rfl, h.updateTtl s t x hr⟩
  | size => exact ⟨congrArg Out.nat (h.size s t hr), hr⟩
  | empty => exact ⟨congrArg (fun n => Out.bool (n == 0)) (h.size s t hr), hr⟩
  | capacity => exact ⟨congrArg Out.nat (h.capacity s t hr), hr⟩

theorem run (h : Sim2 c d R) (ops : List (Time × Op)) :
    ∀ s t, R s t → (c.run s ops).2 = (d.run t ops).2 ∧ R (c.run s ops).1 (d.run t ops).1 := by
  induction ops with
  | nil => exact fun _ _ hr => ⟨rfl, hr⟩
  | cons x ops ih =>
    intro s t hr
    have h1 := h.step s t x.1 x.2 hr
    have h2 := ih _ _ h1.2
    refine ⟨?_, h2.2⟩
    show (c.step s x.1 x.2).2 :: _ = (d.step t x.1 x.2).2 :: _
    rw [h1.1, h2.1]

theorem run_abs {Inv : σ → Prop} {abs : σ → τ} (h : Sim2 c d (fun s t => Inv s ∧ abs s = t))
    {s : σ} (hi : Inv s) (ops : List (Time × Op)) :
    Inv (c.run s ops).1 ∧ (c.run s ops).2 = (d.run (abs s) ops).2 ∧
      abs (c.run s ops).1 = (d.run (abs s) ops).1 :=
  have := h.run ops s (abs s) ⟨hi, rfl⟩
  ⟨this.2.1, this.1, this.2.2⟩

end Sim2
end Verif.L2.UtMap

namespace Verif
open L2.UtMap (Sim2)

structure Sim {σ τ : Type} (c : Core σ) (d : Core τ) (R : σ → τ → Prop) : Prop where
  pre : ∀ s t now, R s t → R (c.pre s now) (d.pre t now)
  insert1 : ∀ s t now k v a ttl, R s t →
    (c.insert1 s now k v a ttl).2 = (d.insert1 t now k v a ttl).2 ∧
    R (c.insert1 s now k v a ttl).1 (d.insert1 t now k v a ttl).1
  find1 : ∀ s t now k peek, R s t →
    (c.find1 s now k peek).2 = (d.find1 t now k peek).2 ∧
    R (c.find1 s now k peek).1 (d.find1 t now k peek).1
  erase1 : ∀ s t k, R s t →
    (c.erase1 s k).2 = (d.erase1 t k).2 ∧ R (c.erase1 s k).1 (d.erase1 t k).1
  noClearC : c.hasClear = false
  noClearD : d.hasClear = false
  clean : ∀ s t now, R s t → (c.clean s now).2 = (d.clean t now).2 ∧ R (c.clean s now).1 (d.clean t now).1
  age : ∀ s t now, R s t → (c.age s now).2 = (d.age t now).2 ∧ R (c.age s now).1 (d.age t now).1
  updateTtl : ∀ s t x, R s t → R (c.updateTtl s x) (d.updateTtl t x)
  size : ∀ s t, R s t → c.size s = d.size t
  capacity : ∀ s t, R s t → c.capacity s = d.capacity t

structure SimC {σ τ : Type} (c : Core σ) (d : Core τ) (R : σ → τ → Prop) : Prop where
  pre : ∀ s t now, R s t → R (c.pre s now) (d.pre t now)
  insert1 : ∀ s t now k v a ttl, R s t →
    (c.insert1 s now k v a ttl).2 = (d.insert1 t now k v a ttl).2 ∧
    R (c.insert1 s now k v a ttl).1 (d.insert1 t now k v a ttl).1
  find1 : ∀ s t now k peek, R s t →
    (c.find1 s now k peek).2 = (d.find1 t now k peek).2 ∧
    R (c.find1 s now k peek).1 (d.find1 t now k peek).1
  erase1 : ∀ s t k, R s t →
    (c.erase1 s k).2 = (d.erase1 t k).2 ∧ R (c.erase1 s k).1 (d.erase1 t k).1
  hasClear : c.hasClear = d.hasClear
  clear : c.hasClear = true → ∀ s t, R s t → R (c.clear s) (d.clear t)
  clean : ∀ s t now, R s t → (c.clean s now).2 = (d.clean t now).2 ∧ R (c.clean s now).1 (d.clean t now).1
  age : ∀ s t now, R s t → (c.age s now).2 = (d.age t now).2 ∧ R (c.age s now).1 (d.age t now).1
  updateTtl : ∀ s t x, R s t → R (c.updateTtl s x) (d.updateTtl t x)
  size : ∀ s t, R s t → c.size s = d.size t
  capacity : ∀ s t, R s t → c.capacity s = d.capacity t

variable {σ τ : Type} {c : Core σ} {d : Core τ} {R : σ → τ → Prop}

theorem SimC.toSim2 (h : SimC c d R) : Sim2 c d R :=
  { h with
    clear := fun s t hr => by
      rw [← h.hasClear]
      cases hc : c.hasClear
      · exact hr
      · exact h.clear hc s t hr }

theorem Sim.toSim2 (h : Sim c d R) : Sim2 c d R :=
  { h with clear := fun s t hr => by rw [h.noClearC, h.noClearD]; exact hr }

end Verif
