import Verif.Twin

/-!
# Capstone for the twin judges (C20, C19, C18): what an `ok` verdict says about the recorded events

`Verif/Twin.lean` compares the event streams of two real container instances driven by one script.  A comparator is a
cascade of guards whose other branch is a `fail`, so a verdict `Verdict.ok n kfs` says that each guard on the way passed
(`fail_else_ok`, `else_fail_ok`, `compare_ok`); each loop lemma is an induction that reads one round off in this way
(`split` on the nested `if`s is exponential in their depth).

The statements are about the log; that the log is what the C++ library did is the harness's business.
-/

namespace Verif.CapstoneTwin
open Verif Verif.Proto Verif.Twin

/-- the same call with the same result, and the same `size()`, `empty()`, `capacity()` and sweep (a lookup of every
key of the universe) read by the harness after it -/
def Agree (a b : Event) : Prop :=
  a.op = b.op ∧ a.out = b.out ∧ a.obs.size = b.obs.size ∧ a.obs.empty = b.obs.empty ∧
    a.obs.cap = b.obs.cap ∧ a.obs.sweep = b.obs.sweep

theorem fail_else_ok {c : Prop} [Decidable c] {i : Nat} {s : String} {t : Verdict} {m : Nat} {kfs : List String} :
    (if c then .fail i s else t) = Verdict.ok m kfs ↔ ¬ c ∧ t = .ok m kfs := by
  by_cases h : c <;> simp [h]

theorem else_fail_ok {c : Prop} [Decidable c] {i : Nat} {s : String} {t : Verdict} {m : Nat} {kfs : List String} :
    (if c then t else .fail i s) = Verdict.ok m kfs ↔ c ∧ t = .ok m kfs := by
  by_cases h : c <;> simp [h]

/-- the test all three comparators apply to a pair of calls that should be the same call -/
theorem compare_ok {a b : Event} {i j : Nat} {s s' : String} {t : Verdict} {m : Nat} {kfs : List String}
    (h : (if a.op != b.op then .fail i s else if a.out == b.out && sameObs a.obs b.obs then t else .fail j s') =
      Verdict.ok m kfs) : Agree a b ∧ t = .ok m kfs := by
  obtain ⟨hop, h⟩ := fail_else_ok.1 h
  obtain ⟨hsame, ht⟩ := else_fail_ok.1 h
  obtain ⟨ho, hobs⟩ := Bool.and_eq_true_iff.1 hsame
  refine ⟨⟨bne_eq_false_iff_eq.1 (Bool.of_not_eq_true hop), eq_of_beq ho, ?_⟩, ht⟩
  rw [show a.obs = b.obs from eq_of_beq hobs]
  exact ⟨rfl, rfl, rfl, rfl⟩

def AgreeTo (k : Nat) (l0 l1 : List Event) : Prop :=
  ∀ i (h0 : i < l0.length), i < k → ∃ h1 : i < l1.length, Agree l0[i] l1[i]

theorem AgreeTo.zero {l0 l1 : List Event} : AgreeTo 0 l0 l1 := fun _ _ h => absurd h (Nat.not_lt_zero _)

theorem AgreeTo.cons {k : Nat} {e0 e1 : Event} {r0 r1 : List Event} (h : Agree e0 e1) (hr : AgreeTo k r0 r1) :
    AgreeTo (k + 1) (e0 :: r0) (e1 :: r1) := by
  intro i h0 hi
  cases i with
  | zero => exact ⟨Nat.succ_pos _, h⟩
  | succ i =>
    obtain ⟨h1, ha⟩ := hr i (Nat.lt_of_succ_lt_succ h0) (Nat.lt_of_succ_lt_succ hi)
    exact ⟨Nat.succ_lt_succ h1, ha⟩

/-! ## C20: after `clear()` versus a freshly constructed container -/

/-- the calls of instance 0 before the continuation; in a C20 script the last of them is the `clear()`, and instance 1
is the freshly constructed container -/
def pre0 (evs : List Event) : List Event := evs.filter (fun e => e.inst == 0 && e.tag == "@pre")
def cont0 (evs : List Event) : List Event := evs.filter (fun e => e.inst == 0 && e.tag != "@pre")
def fresh1 (evs : List Event) : List Event := evs.filter (fun e => e.inst == 1 && e.tag != "@pre")

theorem c20Loop_ok {l0 l1 : List Event} {n m : Nat} {kfs : List String} (h : c20Loop n l0 l1 = .ok m kfs) :
    m = n + l0.length ∧ kfs = [] ∧ AgreeTo l0.length l0 l1 := by
  induction l0 generalizing l1 n with
  | nil =>
    cases h
    exact ⟨rfl, rfl, .zero⟩
  | cons e0 r0 ih =>
    cases l1 with
    | nil => cases h
    | cons e1 r1 =>
      obtain ⟨ha, h⟩ := compare_ok h
      obtain ⟨hm, hk, hall⟩ := ih h  -- `hm : m = n + 1 + r0.length`
      exact ⟨hm.trans (Nat.add_right_comm n 1 _), hk, hall.cons ha⟩

/-- **C20, comparator's verdict.**  After its `clear()` the container reported `size() = 0`, `empty()` and an empty
sweep, and every later call returned what the same call on a freshly constructed container returned and left the same
observers (`Agree`); all `n` continuation calls were compared and no known finding was used.  "Its `clear()`" is the
last `@pre` call of instance 0: which call that is, the comparator does not check. -/
theorem c20_observed {evs : List Event} {n : Nat} {kfs : List String} (h : c20 evs = .ok n kfs) :
    (∃ c, (pre0 evs).getLast? = some c ∧ c.obs.size = 0 ∧ c.obs.empty = true ∧ c.obs.sweep = []) ∧
    n = (cont0 evs).length ∧ kfs = [] ∧
    ∀ i (h0 : i < (cont0 evs).length), ∃ h1 : i < (fresh1 evs).length,
      Agree (cont0 evs)[i] (fresh1 evs)[i] := by
  unfold c20 at h
  dsimp only at h
  split at h
  · rename_i c hc
    obtain ⟨hz, h⟩ := fail_else_ok.1 h
    simp only [Bool.or_eq_true, not_or, Bool.not_eq_true, bne_eq_false_iff_eq, Bool.not_eq_eq_eq_not] at hz
    obtain ⟨hm, hk, hall⟩ := c20Loop_ok h
    refine ⟨⟨c, hc, ?_, ?_, ?_⟩, hm.trans (Nat.zero_add _), hk, fun i h0 => hall i h0 h0⟩
    · exact hz.1.1
    · simpa using hz.1.2
    · simpa using hz.2
  · cases h

/-! ## C19 (containers without TTL): no-effect calls spliced into instance 1 -/

/-- the calls of instance 1 that instance 0 shares: the spliced calls (tag `@x`) dropped.  The list ends at the first
spliced call that, judged by its own result (`noEffect`), did change the container: from there on the two containers
may legitimately differ and nothing is compared. -/
def shared : List Event → List Event
  | [] => []
  | e :: r => if e.tag == "@x" then (if noEffect e then shared r else []) else e :: shared r

def EffectiveSplice (l1 : List Event) : Prop := ∃ e ∈ l1, e.tag = "@x" ∧ noEffect e = false

theorem shared_cons (e : Event) (r : List Event) :
    shared (e :: r) = if e.tag == "@x" then (if noEffect e then shared r else []) else e :: shared r := rfl

theorem shared_eq_filter {l1 : List Event} (h : ∀ e ∈ l1, e.tag = "@x" → noEffect e = true) :
    shared l1 = l1.filter (fun e => e.tag != "@x") := by
  induction l1 with
  | nil => rfl
  | cons e r ih =>
    rw [shared_cons, List.filter_cons, bne, ih fun e he => h e (List.mem_cons_of_mem _ he)]
    cases hb : e.tag == "@x" with
    | true => rw [if_pos rfl, if_pos (h e List.mem_cons_self (eq_of_beq hb))]; rfl
    | false => rfl

theorem EffectiveSplice.tail {e1 : Event} {r1 : List Event} : EffectiveSplice r1 → EffectiveSplice (e1 :: r1) :=
  Exists.imp fun _ => And.imp_left (List.mem_cons_of_mem _)

/-- every step consumes a call of `l1`, so `l1.length < fuel` is all the fuel needed -/
theorem c19Loop_ok {kind : Kind} (hk : isTtl kind = false) {fuel n : Nat} {kf : List String} {l0 l1 : List Event}
    {m : Nat} {kfs : List String} (hf : l1.length < fuel) (h : c19Loop kind fuel n kf l0 l1 = .ok m kfs) :
    ∃ k, m = n + k ∧ kfs = kf ∧ k ≤ l0.length ∧ AgreeTo k l0 (shared l1) ∧
      (k = l0.length ∨ (k = (shared l1).length ∧ EffectiveSplice l1)) := by
  induction fuel generalizing n l0 l1 with
  | zero => cases hf
  | succ fuel ih =>
    cases l0 with
    | nil => cases h; exact ⟨0, rfl, rfl, Nat.le_refl _, .zero, Or.inl rfl⟩
    | cons e0 r0 =>
      cases l1 with
      | nil => cases h
      | cons e1 r1 =>
        have hf' : r1.length < fuel := Nat.lt_of_succ_lt_succ hf
        -- one round of the loop, by definitional unfolding: `unfold` has Lean first prove the unfolding equation of the
        -- whole loop, which is slow
        change (if _ then _ else _) = _ at h
        rw [shared_cons]
        by_cases hx : (e1.tag == "@x") = true
        · rewrite [if_pos hx] at h ⊢
          by_cases hne : noEffect e1 = true
          · rewrite [if_pos hne] at h ⊢
            obtain ⟨k, hm, hkf, hle, hall, hend⟩ := ih hf' h
            exact ⟨k, hm, hkf, hle, hall, hend.imp id (And.imp id .tail)⟩
          · rewrite [if_neg hne] at h ⊢
            cases h
            exact ⟨0, rfl, rfl, Nat.zero_le _, .zero,
              Or.inr ⟨rfl, e1, List.mem_cons_self, eq_of_beq hx, Bool.of_not_eq_true hne⟩⟩
        · rewrite [if_neg hx, hk, if_pos (show (!false) = true from rfl)] at h
          rewrite [if_neg hx]
          obtain ⟨ha, h⟩ := compare_ok h
          obtain ⟨k, hm, hkf, hle, hall, hend⟩ := ih hf' h  -- `hm : m = n + 1 + k`
          refine ⟨k + 1, hm.trans (Nat.add_right_comm n 1 k), hkf, Nat.succ_le_succ hle, hall.cons ha, ?_⟩
          exact hend.imp (congrArg Nat.succ) (And.imp (congrArg Nat.succ) .tail)

def inst (i : Nat) (evs : List Event) : List Event := evs.filter (·.inst == i)

/-- **C19, comparator's verdict, containers without TTL** (lru, mru, fifo, lfu, lfuda, rr).  Instance 1 received the
calls of instance 0 plus spliced calls (tag `@x`) chosen so as to have no effect (`find`/`find_range` with `peek`, a
`find` that misses, an `insert`/`erase` that returns `false`).  The first `n` calls of instance 0 agree (`Agree`) with
those of instance 1 without its spliced calls (`shared`); no known finding was used; the verdict is not due to
exhausted fuel; and either `n` is all of instance 0, or the comparison stopped where `shared` stops: at a spliced call
whose own result shows that it did have an effect. -/
theorem c19_observed {kind : Kind} (hk : isTtl kind = false) {evs : List Event} {n : Nat} {kfs : List String}
    (h : c19 kind evs = .ok n kfs) :
    kfs = [] ∧ n ≤ (inst 0 evs).length ∧
    (∀ i (h0 : i < (inst 0 evs).length), i < n →
      ∃ h1 : i < (shared (inst 1 evs)).length, Agree (inst 0 evs)[i] (shared (inst 1 evs))[i]) ∧
    (n = (inst 0 evs).length ∨ (n = (shared (inst 1 evs)).length ∧ EffectiveSplice (inst 1 evs))) := by
  have hl : (inst 1 evs).length < 2 * evs.length + 1 :=
    calc (inst 1 evs).length ≤ evs.length := List.length_filter_le _ _
      _ ≤ 2 * evs.length := Nat.le_mul_of_pos_left _ Nat.two_pos
      _ < 2 * evs.length + 1 := Nat.lt_succ_self _
  obtain ⟨k, hm, hkf, hle, hall, hend⟩ := c19Loop_ok hk hl h
  obtain rfl : n = k := hm.trans (Nat.zero_add k)
  exact ⟨hkf, hle, hall, hend⟩

/-- **C19, the case the generator aims for**: every spliced call has, by its own result, no effect.  Then all of
instance 0 was compared: the spliced `find`s, refused `insert`s and failed `erase`s changed nothing that a later call
or observer shows.  Positions below the length of instance 0 only: the comparator stops with instance 0, and nothing
is said of later un-spliced calls of instance 1. -/
theorem c19_observed_all {kind : Kind} (hk : isTtl kind = false) {evs : List Event} {n : Nat} {kfs : List String}
    (h : c19 kind evs = .ok n kfs)
    (hx : ∀ e ∈ inst 1 evs, e.tag = "@x" → noEffect e = true) :
    kfs = [] ∧ n = (inst 0 evs).length ∧
    ∀ i (h0 : i < (inst 0 evs).length),
      ∃ h1 : i < ((inst 1 evs).filter (fun e => e.tag != "@x")).length,
        Agree (inst 0 evs)[i] ((inst 1 evs).filter (fun e => e.tag != "@x"))[i] := by
  obtain ⟨hkf, -, hall, rfl | ⟨-, e, he, ht, hne⟩⟩ := c19_observed hk h
  · rw [shared_eq_filter hx] at hall
    exact ⟨hkf, rfl, fun i h0 => hall i h0 h0⟩
  · rw [hx e he ht] at hne
    cases hne

/-! ## C18 (containers other than ut_map / ut_set): a range call versus the same elements as single calls -/

/-- the alignment the C18 comparator walks: a call of instance 0 tagged `@g<n>` is a range call (`insert_range`,
`erase_range`, `find_range`) whose result is the `aggregate` of the single calls of instance 1 carrying the same tag
(the number of `true`s, resp. the list of the `find` results) and, unless that group is empty, whose observers are
those after the group's last single call; any other call of instance 0 faces the same call on instance 1 -/
def RangeAgree : List Event → List Event → Prop
  | [], _ => True
  | e0 :: r0, l1 =>
    if e0.tag.startsWith "@g" then
      aggregate e0.op (l1.takeWhile (fun e => e.tag == e0.tag)) = some e0.out ∧
      (∀ last, (l1.takeWhile (fun e => e.tag == e0.tag)).getLast? = some last → last.obs = e0.obs) ∧
      RangeAgree r0 (l1.dropWhile (fun e => e.tag == e0.tag))
    else ∃ e1 r1, l1 = e1 :: r1 ∧ Agree e0 e1 ∧ RangeAgree r0 r1

theorem rangeAgree_group {e0 : Event} {r0 l1 : List Event} (hg : e0.tag.startsWith "@g" = true) :
    RangeAgree (e0 :: r0) l1 ↔
      aggregate e0.op (l1.takeWhile (fun e => e.tag == e0.tag)) = some e0.out ∧
      (∀ last, (l1.takeWhile (fun e => e.tag == e0.tag)).getLast? = some last → last.obs = e0.obs) ∧
      RangeAgree r0 (l1.dropWhile (fun e => e.tag == e0.tag)) :=
  Iff.of_eq (if_pos hg)

theorem rangeAgree_plain {e0 : Event} {r0 l1 : List Event} (hg : e0.tag.startsWith "@g" = false) :
    RangeAgree (e0 :: r0) l1 ↔ ∃ e1 r1, l1 = e1 :: r1 ∧ Agree e0 e1 ∧ RangeAgree r0 r1 :=
  Iff.of_eq (if_neg (ne_true_of_eq_false hg))

theorem c18Loop_ok {kind : Kind} (hk : isEager kind = false) {fuel n : Nat} {kf : List String} {l0 l1 : List Event}
    {m : Nat} {kfs : List String} (hf : l0.length ≤ fuel) (h : c18Loop kind fuel n kf l0 l1 = .ok m kfs) :
    m = n + l0.length ∧ kfs = kf ∧ RangeAgree l0 l1 := by
  induction l0 generalizing l1 fuel n with
  | nil =>
    have : c18Loop kind fuel n kf [] l1 = .ok n kf := by cases fuel <;> rfl
    cases this.symm.trans h
    exact ⟨rfl, rfl, trivial⟩
  | cons e0 r0 ih =>
    cases fuel with
    | zero => cases hf
    | succ fuel =>
      -- every continuation is the same recursive call; of it `ih` gives `m = n + 1 + r0.length`
      have next : ∀ {l1'}, c18Loop kind fuel (n + 1) kf r0 l1' = .ok m kfs →
          m = n + (e0 :: r0).length ∧ kfs = kf ∧ RangeAgree r0 l1' := fun h =>
        (ih (Nat.le_of_succ_le_succ hf) h).imp (·.trans (Nat.add_right_comm n 1 _)) id
      -- one round of the loop, by definitional unfolding (as in `c19Loop_ok`)
      change (if _ then _ else _) = _ at h
      -- with `isEager kind = false` the `c18-eager-size` branches reduce to the `fail` after them
      rewrite [hk] at h
      by_cases hg : e0.tag.startsWith "@g" = true
      · rewrite [if_pos hg] at h
        dsimp only at h
        rw [rangeAgree_group hg]
        cases hagg : aggregate e0.op (l1.takeWhile (fun e => e.tag == e0.tag)) with
        | none => rewrite [hagg] at h; cases h
        | some agg =>
          rewrite [hagg] at h
          obtain ⟨hne, h⟩ := fail_else_ok.1 h
          have hout : some agg = some e0.out := congrArg some (bne_eq_false_iff_eq.1 (Bool.of_not_eq_true hne))
          cases hlast : (l1.takeWhile (fun e => e.tag == e0.tag)).getLast? with
          | none =>
            rewrite [hlast] at h
            obtain ⟨hm, hkf, hr⟩ := next h
            exact ⟨hm, hkf, hout, fun _ hl => (nomatch hl), hr⟩
          | some last =>
            rewrite [hlast] at h
            obtain ⟨hobs, h⟩ := else_fail_ok.1 h
            obtain ⟨hm, hkf, hr⟩ := next h
            refine ⟨hm, hkf, hout, fun _ hl => ?_, hr⟩
            cases hl
            exact eq_of_beq hobs
      · rewrite [if_neg hg] at h
        rw [rangeAgree_plain (Bool.of_not_eq_true hg)]
        cases l1 with
        | nil => cases h
        | cons e1 r1 =>
          obtain ⟨ha, h⟩ := compare_ok h
          obtain ⟨hm, hkf, hr⟩ := next h
          exact ⟨hm, hkf, e1, r1, rfl, ha, hr⟩

/-- **C18, comparator's verdict, containers other than ut_map / ut_set.**  Instance 0 received range calls, instance 1
the same elements as single `insert`/`erase`/`find` calls: every range call returned the aggregate of its single calls
and left the observers the last of them left, every other call agrees with its counterpart (`RangeAgree`, unfolded by
`rangeAgree_group` and `rangeAgree_plain`); all `n` calls of instance 0 were compared and no known finding was used. -/
theorem c18_observed {kind : Kind} (hk : isEager kind = false) {evs : List Event} {n : Nat} {kfs : List String}
    (h : c18 kind evs = .ok n kfs) :
    n = (inst 0 evs).length ∧ kfs = [] ∧ RangeAgree (inst 0 evs) (inst 1 evs) := by
  have hl : (inst 0 evs).length ≤ evs.length + 1 :=
    Nat.le_succ_of_le (List.length_filter_le _ _)
  obtain ⟨hm, hkf, hr⟩ := c18Loop_ok hk hl h
  exact ⟨hm.trans (Nat.zero_add _), hkf, hr⟩

/-! ## non-vacuity -/

def logC20 : List Event :=
  [ { inst := 0, now := 0, tag := "@pre", op := .insert 1 1 .insertOrUpdate 0, out := .bool true,
      obs := { size := 1, empty := false, cap := 2, sweep := [(1, 1, 0)] } },
    { inst := 0, now := 0, tag := "@pre", op := .clear, out := .unit,
      obs := { size := 0, empty := true, cap := 2, sweep := [] } },
    { inst := 0, now := 0, tag := "@", op := .insert 2 5 .insertOrUpdate 0, out := .bool true,
      obs := { size := 1, empty := false, cap := 2, sweep := [(2, 5, 0)] } },
    { inst := 1, now := 0, tag := "@", op := .insert 2 5 .insertOrUpdate 0, out := .bool true,
      obs := { size := 1, empty := false, cap := 2, sweep := [(2, 5, 0)] } } ]

theorem logC20_ok : c20 logC20 = .ok 1 [] := by rfl

example : ∀ i (_ : i < (cont0 logC20).length), ∃ h1 : i < (fresh1 logC20).length,
    Agree (cont0 logC20)[i] (fresh1 logC20)[i] :=
  (c20_observed logC20_ok).2.2.2

def logC19 : List Event :=
  [ { inst := 0, now := 0, tag := "@", op := .insert 1 1 .insertOrUpdate 0, out := .bool true,
      obs := { size := 1, empty := false, cap := 2, sweep := [(1, 1, 0)] } },
    { inst := 1, now := 0, tag := "@x", op := .find 9 true, out := .opt none,
      obs := { size := 0, empty := true, cap := 2, sweep := [] } },
    { inst := 1, now := 0, tag := "@", op := .insert 1 1 .insertOrUpdate 0, out := .bool true,
      obs := { size := 1, empty := false, cap := 2, sweep := [(1, 1, 0)] } } ]

theorem logC19_ok : c19 .lru logC19 = .ok 1 [] := by rfl

example : ∀ i (_ : i < (inst 0 logC19).length), i < 1 →
    ∃ h1 : i < (shared (inst 1 logC19)).length, Agree (inst 0 logC19)[i] (shared (inst 1 logC19))[i] :=
  (c19_observed (kind := .lru) rfl logC19_ok).2.2.1

#print axioms c20_observed
#print axioms c19_observed
#print axioms c19_observed_all
#print axioms c18_observed
#print axioms logC20_ok
#print axioms logC19_ok

end Verif.CapstoneTwin
