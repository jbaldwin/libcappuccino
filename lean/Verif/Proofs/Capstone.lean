import Verif.Proofs.AcceptComplete
import Verif.Proofs.LinBridge
import Verif.PropertiesConc
/-!
# Capstone: from a verdict of the acceptor or of the history checker to the property, on what was observed

`accept_soundD` and `check_sound` conclude facts about model internals: a chain of reference states explains the log,
the model reproduces some ordering of the history.  Here a verdict of the executable judge becomes the property
itself, stated about the events and call records the harness wrote down.  The statements are about the log; that the
log is what the C++ did is the harness's business.

Part A (`accept cfg nkeys evs = (none, m)`, `m ≤ candLimit`; single-threaded event log).  One invariant, `ChainInv`, is
carried along the explaining chain; `accepted_event` presents event `i` as an explained call made in a state with that
invariant, and the theorems read their conclusions off it (one clause excepted: `size() = #sweep` after a purging call
of ut_map / ut_set is a test of the acceptor's own, `Accept.loop_eager_size`).  What the invariant says of a resident
entry comes from reading the reference semantics backwards (`back_step`, a corollary of `Spec.coupled_step`): the entry
was written by the last successful write of its key in the call, or was resident before and no atom of the call
disturbed it.
Not claimed: which element of a partially successful range insert wrote a value (the log does not show per-element
verdicts); anything for logs the acceptor gave up on (`m > candLimit`).

Part B (`Lin.check cfg hs = (some true, u)`, `Records h hs`; recorded concurrent history).  `check_seqRules`, generic in
the container's bundle `V`; the theorems of the eight caches instantiate it.  `check_utmap` does not: the invariant of
ut_map / ut_set mentions the clock, so it claims the rules only for orderings with non-decreasing readings
(`SeqExplainedMono`), from `explains_of_isLin` and `seqRules_mono`.
-/
namespace Verif.Capstone
open Verif Verif.Proto Verif.Spec Verif.Accept Verif.Lin

/-! ## Part A -/

/-! ### backward reading of the reference semantics: where does a resident entry come from? -/

/-- `x` is no successful write of `k`, no erase of `k` (accepted or refused) and no `clear`: an entry found under `k`
after such an atom was there before it (`back_step`).  The atom-level counterpart of `¬ touchesO`. -/
def quiet (k : Key) : Atom → Prop
  | .ins k' _ _ _ ok => ¬ (k' = k ∧ ok = true)
  | .del k' _ => k' ≠ k
  | .clear => False
  | _ => True

theorem back_step {fl : Flavor} {cap : Nat} {a a' : A} {now : Time} {x : Atom} {k : Key} {y : Val × Time}
    (hs : AStep fl cap a now x a') (hy : a'.get k = some y) :
    (∃ al, x = .ins k y.1 al y.2 true) ∨ (a.get k = some y ∧ quiet k x) := by
  -- `coupled_step`, with the map before the atom as the record of latest writes
  have hg : ghost a.get x k = some y := coupled_step (g := a.get) (fun _ _ h => h) hs k y hy
  cases x with
  | ins k' v al d ok =>
    cases ok with
    | true =>
      rcases AMap.set_eq_some_iff.mp hg with ⟨rfl, rfl⟩ | ⟨hne, h⟩
      · exact Or.inl ⟨al, rfl⟩
      · exact Or.inr ⟨h, fun hh => hne hh.1.symm⟩
    | false => exact Or.inr ⟨hg, fun hh => Bool.false_ne_true hh.2⟩
  | del k' ok =>
    right
    cases ok with
    | true =>
      obtain ⟨hne, h⟩ := AMap.del_eq_some_iff.mp hg
      exact ⟨h, fun hh => hne hh.symm⟩
    | false =>
      -- a refused erase found nothing under its key
      refine ⟨hg, fun hh => ?_⟩
      subst hh
      exact Bool.false_ne_true ((AStep.del_hit hg).mp hs).1
  | clear => cases hg
  | _ => exact Or.inr ⟨hg, trivial⟩

/-- `back_step` along a trace, the form everything else uses: the writer of a resident entry is the last atom that is
not `quiet` for its key, or there is none and the entry was resident at the start -/
theorem back_run {fl : Flavor} {cap : Nat} {a a' : A} {tr : List (Time × Atom)} {k : Key} {y : Val × Time}
    (hr : ARun fl cap a tr a') (hy : a'.get k = some y) :
    (∃ p q t al, tr = p ++ (t, .ins k y.1 al y.2 true) :: q ∧ ∀ x ∈ q, quiet k x.2) ∨
    (a.get k = some y ∧ ∀ x ∈ tr, quiet k x.2) := by
  induction hr with
  | nil => exact Or.inr ⟨hy, fun _ hx => absurd hx List.not_mem_nil⟩
  | @cons _ _ _ now x tr hs _ ih =>
    rcases ih hy with ⟨p, q, t, al, rfl, hq⟩ | ⟨h1, hq⟩
    · exact Or.inl ⟨(now, x) :: p, q, t, al, rfl, hq⟩
    · rcases back_step hs h1 with ⟨al, rfl⟩ | ⟨h0, hx⟩
      · exact Or.inl ⟨[], tr, now, al, rfl, hq⟩
      · exact Or.inr ⟨h0, List.forall_mem_cons.2 ⟨hx, hq⟩⟩

theorem insAtomsD_le {a : Allow} {dl : Nat → Time} {xs as n} (h : InsAtomsD a dl xs as n) : n ≤ xs.length := by
  induction h with
  | nil => exact Nat.le_refl _
  | @cons k v t ok xs as n _ ih =>
    rw [Nat.add_comm]  -- to `n + (if ok then 1 else 0) ≤ xs.length + 1`
    exact Nat.add_le_add ih (by cases ok <;> decide)

theorem insAtomsD_mem {a : Allow} {dl : Nat → Time} {xs as n} (h : InsAtomsD a dl xs as n) {x : Atom}
    (hx : x ∈ as) : ∃ k v t ok, x = .ins k v a (dl t) ok ∧ (k, v, t) ∈ xs ∧ (ok = true → 0 < n) := by
  induction h with
  | nil => cases hx
  | @cons k v t ok xs as n _ ih =>
    rcases List.mem_cons.1 hx with rfl | hx
    · refine ⟨k, v, t, ok, rfl, List.mem_cons_self .., fun h => ?_⟩
      rw [if_pos h]
      exact Nat.lt_add_right n Nat.one_pos
    · obtain ⟨k', v', t', ok', h1, h2, h3⟩ := ih hx
      exact ⟨k', v', t', ok', h1, List.mem_cons_of_mem _ h2, fun h => Nat.lt_add_left _ (h3 h)⟩

theorem insAtomsD_full {a : Allow} {dl : Nat → Time} {xs as n} (h : InsAtomsD a dl xs as n) (hn : n = xs.length) :
    as = xs.map (fun x => Atom.ins x.1 x.2.1 a (dl x.2.2) true) := by
  induction h with
  | nil => rfl
  | @cons k v t ok xs as n h' ih =>
    rw [List.length_cons] at hn
    cases ok
    · -- a failed element: `hn : n = xs.length + 1`, but the rest has at most `xs.length` successes
      rw [if_neg Bool.false_ne_true, Nat.zero_add] at hn
      have hle : n ≤ xs.length := insAtomsD_le h'
      rw [hn] at hle
      exact absurd hle (Nat.not_succ_le_self _)
    · rw [if_pos rfl, Nat.add_comm] at hn
      rw [List.map_cons, ← ih (Nat.succ.inj hn)]

theorem insAtomsD_all {a : Allow} {dl : Nat → Time} {xs as n} (h : InsAtomsD a dl xs as n)
    (hn : n = xs.length) {k v t} (hm : (k, v, t) ∈ xs) : Atom.ins k v a (dl t) true ∈ as := by
  rw [insAtomsD_full h hn]
  exact List.mem_map_of_mem (f := fun x => Atom.ins x.1 x.2.1 a (dl x.2.2) true) hm

theorem insAtomsD_none {a : Allow} {dl : Nat → Time} {xs as} (h : InsAtomsD a dl xs as 0) :
    ∀ x ∈ as, ∃ k v t, x = Atom.ins k v a (dl t) false := by
  intro x hx
  obtain ⟨k, v, t, ok, rfl, _, h3⟩ := insAtomsD_mem h hx
  cases ok
  · exact ⟨k, v, t, rfl⟩
  · exact absurd (h3 rfl) (Nat.lt_irrefl 0)

theorem lookAtoms_mem {pk : Bool} {ks as rs} (h : LookAtoms pk ks as rs) {x : Atom} (hx : x ∈ as) :
    ∃ k r, x = .look k pk r := by
  induction h with
  | nil => cases hx
  | cons _ ih =>
    rcases List.mem_cons.1 hx with rfl | hx
    · exact ⟨_, _, rfl⟩
    · exact ih hx

theorem delAtoms_mem {ks as n} (h : DelAtoms ks as n) {x : Atom} (hx : x ∈ as) :
    ∃ k ok, x = .del k ok ∧ k ∈ ks := by
  induction h with
  | nil => cases hx
  | cons _ ih =>
    rcases List.mem_cons.1 hx with rfl | hx
    · exact ⟨_, _, rfl, List.mem_cons_self ..⟩
    · obtain ⟨k, ok, h1, h2⟩ := ih hx
      exact ⟨k, ok, h1, List.mem_cons_of_mem _ h2⟩

theorem delAtoms_all {ks as n} (h : DelAtoms ks as n) {k : Key} (hk : k ∈ ks) : ∃ ok, Atom.del k ok ∈ as := by
  induction h with
  | nil => cases hk
  | cons _ ih =>
    rcases List.mem_cons.1 hk with rfl | hk
    · exact ⟨_, List.mem_cons_self ..⟩
    · obtain ⟨ok, h⟩ := ih hk
      exact ⟨ok, List.mem_cons_of_mem _ h⟩

theorem outOk_bool {out : Out} {b : Bool} (h : outOk (some (.bool b)) out = true) : out = .bool b := by
  have h : Out.bool b = stripOut out := eq_of_beq h
  cases out with
  | optc o => cases h
  | _ => exact h.symm

theorem outOk_nat {out : Out} {n : Nat} (h : outOk (some (.nat n)) out = true) : out = .nat n := by
  have h : Out.nat n = stripOut out := eq_of_beq h
  cases out with
  | optc o => cases h
  | _ => exact h.symm

/-! ### what a call shows: may have written, certainly disturbed, the event-level history variable -/

/-! `dlEv`, and below `ttlStep` and `kindHasClear`, restate `Accept.deadline`, `ttlAfter` and `hasClear` on the kind and
the configured TTL in place of the acceptor's context and candidate state, so that the theorems of Part A mention the
configuration and the log only (`deadline_eq`, `ttlAfter_eq_ttlStep`; `kindHasClear c.kind` is `hasClear c` by `rfl`). -/

/-- the deadline a write carries: `tlru_cache` takes the TTL from the call (ms), `utlru_cache`, `ut_map`
and `ut_set` use the configured TTL (ns), the other containers have none -/
def dlEv (kind : Kind) (ttl : Nat) (now : Time) (t : Nat) : Time :=
  match kind with
  | .tlru => now + t * msNs
  | .utlru | .utmap | .utset => now + ttl
  | _ => 0

theorem deadline_eq (c : Ctx) (s : RState) (now : Time) : deadline c s now = dlEv c.kind s.ttl now := by
  funext t
  unfold deadline dlEv
  cases c.kind <;> rfl

@[simp] theorem dlEv_tlru (ttl : Nat) (now : Time) (t : Nat) : dlEv .tlru ttl now t = now + t * msNs := rfl
@[simp] theorem dlEv_utlru (ttl : Nat) (now : Time) (t : Nat) : dlEv .utlru ttl now t = now + ttl := rfl
@[simp] theorem dlEv_utmap (ttl : Nat) (now : Time) (t : Nat) : dlEv .utmap ttl now t = now + ttl := rfl
@[simp] theorem dlEv_utset (ttl : Nat) (now : Time) (t : Nat) : dlEv .utset ttl now t = now + ttl := rfl

/-- the observed call may have written `(v, d)` under `k` (`dl`: TTL argument ↦ deadline).  A range insert counts as
soon as it reports one success: the log does not show which of its elements succeeded. -/
def writesO (dl : Nat → Time) (k : Key) (v : Val) (d : Time) : Op → Out → Prop
  | .insert k' v' _ t, .bool true => k' = k ∧ v' = v ∧ dl t = d
  | .insertRange xs _, .nat n => 0 < n ∧ ∃ t, (k, v, t) ∈ xs ∧ dl t = d
  | _, _ => False

/-- the observed call certainly disturbed `k`.  An erase counts whatever it returned (if refused, the key was
absent); a range insert only if all its elements succeeded. -/
def touchesO (hc : Bool) (k : Key) : Op → Out → Prop
  | .erase k', _ => k' = k
  | .eraseRange ks, _ => k ∈ ks
  | .clear, _ => hc = true
  | .insert k' _ _ _, out => k' = k ∧ out = .bool true
  | .insertRange xs _, out => out = .nat xs.length ∧ ∃ v t, (k, v, t) ∈ xs
  | _, _ => False

def wroteWith (k : Key) (v : Val) (t : Nat) (e : Event) : Prop :=
  (∃ a, e.op = .insert k v a t ∧ e.out = .bool true) ∨
  (∃ xs a n, e.op = .insertRange xs a ∧ e.out = .nat n ∧ 0 < n ∧ (k, v, t) ∈ xs)

theorem writesO_iff {dl : Nat → Time} {k : Key} {v : Val} {d : Time} {op : Op} {out : Out} :
    writesO dl k v d op out ↔ ∃ t,
      ((∃ a, op = .insert k v a t ∧ out = .bool true) ∨
        (∃ xs a n, op = .insertRange xs a ∧ out = .nat n ∧ 0 < n ∧ (k, v, t) ∈ xs)) ∧ dl t = d := by
  constructor
  · unfold writesO
    split
    · rintro ⟨rfl, rfl, h⟩; exact ⟨_, Or.inl ⟨_, rfl, rfl⟩, h⟩
    · rintro ⟨hn, t, hm, h⟩; exact ⟨t, Or.inr ⟨_, _, _, rfl, rfl, hn, hm⟩, h⟩
    · exact False.elim
  · rintro ⟨t, (⟨a, rfl, rfl⟩ | ⟨xs, a, n, rfl, rfl, hn, hm⟩), h⟩
    · exact ⟨rfl, rfl, h⟩
    · exact ⟨hn, t, hm, h⟩

theorem writesO_insKeys {dl : Nat → Time} {k : Key} {v : Val} {d : Time} {op : Op} {out : Out}
    (hw : writesO dl k v d op out) : k ∈ insKeys op := by
  rcases writesO_iff.1 hw with ⟨t, (⟨a, rfl, _⟩ | ⟨xs, a, m, rfl, _, _, hm⟩), _⟩
  · exact List.mem_singleton_self k
  · exact List.mem_map_of_mem (f := (·.1)) hm

def setAll (g : Key → Option Val) : List (Key × Val × Nat) → Key → Option Val
  | [] => g
  | (k, v, _) :: xs => setAll (fun k' => if k' = k then some v else g k') xs

/-- the event-level mirror of `Spec.ghost`, from what the log shows of one call.  A range insert that reports fewer
successes than it has elements leaves the map as it is: right only for `detO` logs.  An erase forgets its key whatever
it returned, as in `touchesO`. -/
def evGhostO (hc : Bool) (g : Key → Option Val) : Op → Out → Key → Option Val
  | .insert k v _ _, .bool true => fun k' => if k' = k then some v else g k'
  | .insertRange xs _, .nat n => if n = xs.length then setAll g xs else g
  | .erase k, _ => fun k' => if k' = k then none else g k'
  | .eraseRange ks, _ => fun k' => if k' ∈ ks then none else g k'
  | .clear, _ => if hc = true then fun _ => none else g
  | _, _ => g

/-- the verdicts of the elements of a range insert can be read off its result: none or all succeeded -/
def detO : Op → Out → Prop
  | .insertRange xs _, out => out = .nat 0 ∨ out = .nat xs.length
  | _, _ => True

theorem setAll_not_mem {k : Key} (xs : List (Key × Val × Nat)) (g : Key → Option Val)
    (h : ∀ v t, (k, v, t) ∉ xs) : setAll g xs k = g k := by
  induction xs generalizing g with
  | nil => rfl
  | cons x xs ih =>
    obtain ⟨k0, v0, t0⟩ := x
    show setAll (fun k' => if k' = k0 then some v0 else g k') xs k = g k
    rw [ih _ fun v t hm => h v t (List.mem_cons_of_mem _ hm)]
    exact if_neg fun (hk : k = k0) => h v0 t0 (hk ▸ List.mem_cons_self ..)

theorem setAll_last {a : Allow} {dl : Nat → Time} {k : Key} {v : Val} {al : Allow} {d : Time} {l2 : List Atom}
    (hq : ∀ z ∈ l2, quiet k z) (xs : List (Key × Val × Nat)) :
    ∀ (g : Key → Option Val) (l1 : List Atom),
      xs.map (fun x => Atom.ins x.1 x.2.1 a (dl x.2.2) true) = l1 ++ Atom.ins k v al d true :: l2 →
      setAll g xs k = some v := by
  induction xs with
  | nil => intro g l1 h; cases l1 <;> cases h
  | cons x xs ih =>
    intro g l1 h
    cases l1 with
    | nil =>
      obtain ⟨h1, rfl⟩ := List.cons.inj h
      cases h1
      show setAll (fun k' => if k' = x.1 then some x.2.1 else g k') xs x.1 = some x.2.1
      rw [setAll_not_mem xs _ fun v' t' hm =>
        hq _ (List.mem_map_of_mem (f := fun x => Atom.ins x.1 x.2.1 a (dl x.2.2) true) hm) ⟨rfl, rfl⟩]
      exact if_pos rfl
    | cons z l1 => exact ih _ l1 (List.cons.inj h).2

theorem evGhostO_eq_of_not_touchesO {hc : Bool} {g : Key → Option Val} {op : Op} {out : Out} {k : Key}
    (h : ¬ touchesO hc k op out) : evGhostO hc g op out k = g k := by
  unfold evGhostO
  split
  · exact if_neg fun hk => h ⟨hk.symm, rfl⟩
  · split
    · rename_i hn
      exact setAll_not_mem _ g fun v t hm => h ⟨congrArg Out.nat hn, v, t, hm⟩
    · rfl
  · exact if_neg fun hk => h hk.symm
  · exact if_neg h
  · split
    · rename_i hh; exact (h hh).elim
    · rfl
  · rfl

/-- the first alternative of `back_run` within one call, read on the event: if the last atom not `quiet` for `k` is a
successful `ins k v … d`, the operation and its recorded output show a possible write of `(v, d)`, and `evGhostO`
records `v` when the verdicts are readable (`detO`).  `not_touchesO_of_quiet` reads the other alternative. -/
theorem write_observed {c : Ctx} {dl : Nat → Time} {op : Op} {atoms : List Atom} {x : XOut} {out : Out}
    {k : Key} {v : Val} {al : Allow} {d : Time} {l1 l2 : List Atom}
    (ho : OpAtomsD c dl op atoms x) (hout : outOk x out = true)
    (hat : atoms = l1 ++ Atom.ins k v al d true :: l2) (hq : ∀ z ∈ l2, quiet k z) :
    writesO dl k v d op out ∧ (detO op out → ∀ hc g, evGhostO hc g op out k = some v) := by
  have hm : Atom.ins k v al d true ∈ atoms := by
    rw [hat]; exact List.mem_append_right _ (List.mem_cons_self ..)
  cases ho with
  | insert =>
    rcases List.mem_cons.1 hm with hm | hm
    · cases hm
    · cases List.mem_singleton.1 hm
      cases outOk_bool hout
      exact ⟨⟨rfl, rfl, rfl⟩, fun _ _ _ => if_pos rfl⟩
  | @insertRange xs _ as n h =>
    cases outOk_nat hout
    cases l1 with
    | nil => cases hat
    | cons z l1 =>
      have has : as = l1 ++ Atom.ins k v al d true :: l2 := (List.cons.inj hat).2
      obtain ⟨k', v', t', ok', heq, hmem, hpos⟩ :=
        insAtomsD_mem h (x := Atom.ins k v al d true) (by rw [has]; exact List.mem_append_right _ (List.mem_cons_self ..))
      cases heq
      refine ⟨⟨hpos rfl, t', hmem, rfl⟩, fun hdet hc g => ?_⟩
      -- at least one success, so all succeeded: the atoms are one successful write per element
      have hlen : n = xs.length := by
        rcases hdet with h0 | h1
        · cases h0; exact absurd (hpos rfl) (Nat.lt_irrefl 0)
        · cases h1; rfl
      rw [insAtomsD_full h hlen] at has
      show (if n = xs.length then setAll g xs else g) k = some v
      rw [if_pos hlen]
      exact setAll_last hq xs g l1 has
  | findRange h =>
    rcases List.mem_cons.1 hm with hm | hm
    · cases hm
    · obtain ⟨_, _, heq⟩ := lookAtoms_mem h hm; cases heq
  | eraseRange h =>
    rcases List.mem_cons.1 hm with hm | hm
    · cases hm
    · obtain ⟨_, _, heq, _⟩ := delAtoms_mem h hm; cases heq
  -- the other calls have a fixed list of atoms, none of them an insert
  | _ => simp at hm

theorem not_touchesO_of_quiet {c : Ctx} {dl : Nat → Time} {op : Op} {atoms : List Atom} {x : XOut} {out : Out}
    {k : Key} (ho : OpAtomsD c dl op atoms x) (hout : outOk x out = true) (hq : ∀ z ∈ atoms, quiet k z) :
    ¬ touchesO (hasClear c) k op out := by
  intro ht
  cases ho with
  | insert =>
    rename_i k' v' a t ok
    obtain ⟨rfl, rfl⟩ := ht
    cases outOk_bool hout
    exact hq (.ins k' v' a (dl t) true) (List.mem_cons_of_mem _ (List.mem_cons_self ..)) ⟨rfl, rfl⟩
  | insertRange h =>
    obtain ⟨rfl, v, t, hmem⟩ := ht
    cases outOk_nat hout
    exact hq _ (List.mem_cons_of_mem _ (insAtomsD_all h rfl hmem)) ⟨rfl, rfl⟩
  | erase =>
    rename_i k' ok
    exact hq (.del k' ok) (List.mem_cons_of_mem _ (List.mem_cons_self ..)) ht
  | eraseRange h =>
    obtain ⟨ok, hmem⟩ := delAtoms_all h ht
    exact hq _ (List.mem_cons_of_mem _ hmem) rfl
  | clear hc => exact hq .clear (List.mem_cons_self ..)
  | noClear hc => rw [hc] at ht; cases ht
  -- for the other calls `touchesO` is `False` by definition
  | _ => exact ht

def lookKey : Op → Option Key
  | .find k _ => some k
  | .findCount k _ => some k
  | _ => none

/-- the value a lookup reported (`find`: `optional<V>`; `find_with_use_count`: `optional<pair<V, count>>`) -/
def hitOf : Out → Option Val
  | .opt o => o
  | .optc o => o.map (·.1)
  | _ => none

theorem outOk_hit {out : Out} {o : Option Val} {v : Val} (h : outOk (some (.opt o)) out = true)
    (hv : hitOf out = some v) : o = some v := by
  have h : Out.opt o = stripOut out := eq_of_beq h
  cases out with
  | opt o' | optc o' => cases h; exact hv
  | _ => cases h

theorem lookup_hit_resident {c : Ctx} {s s' : RState} {now : Time} {op : Op} {x : XOut} {out : Out} {k : Key} {v : Val}
    (hex : ExplainedD c s now op s' x) (hout : outOk x out = true) (hop : lookKey op = some k)
    (hv : hitOf out = some v) :
    ∃ d, (absR s).get k = some (v, d) ∧ (c.fl ≠ .plain → now < d) := by
  obtain ⟨_, _, atoms, hoa, hrun⟩ := hex
  have main : ∀ (pk : Bool) (r : Option (Val × Nat)), r.map (·.1) = some v →
      ARun c.fl c.cap (absR s) ([Atom.pre, .look k pk r].map (fun a => (now, a))) (absR s') →
      ∃ d, (absR s).get k = some (v, d) ∧ (c.fl ≠ .plain → now < d) := by
    intro pk r hr hrun
    obtain ⟨a1, hpre, hrun⟩ := ARun.cons_inv hrun
    obtain ⟨a2, hlook, _⟩ := ARun.cons_inv hrun
    obtain ⟨d, hk, hlazy⟩ := served_is_live hlook hr
    rcases back_step hpre hk with ⟨al, habs⟩ | ⟨h0, _⟩
    · cases habs
    · refine ⟨d, h0, fun hfl => ?_⟩
      cases hc : c.fl with
      | plain => exact absurd hc hfl
      | lazy => exact hlazy hc
      | eager => rw [hc] at hpre; exact pre_fresh hpre k (v, d) hk
  unfold lookKey at hop
  split at hop
  · cases hop; cases hoa; exact main _ _ (outOk_hit hout hv) hrun
  · cases hop; cases hoa; exact main _ _ (outOk_hit hout hv) hrun
  · cases hop

/-! ### the log as a history: who wrote what is resident -/

/-- the configured TTL (ns) after a call: `update_ttl` exists in `utlru_cache` only -/
def ttlStep (kind : Kind) (ttl : Nat) : Op → Nat
  | .updateTtl t => if kind == .utlru then t * msNs else ttl
  | _ => ttl

def ttlOf (kind : Kind) (ttl0 : Nat) (pre : List Event) : Nat := pre.foldl (fun t e => ttlStep kind t e.op) ttl0

theorem ttlAfter_eq_ttlStep (c : Ctx) (s : RState) (op : Op) : ttlAfter c s op = ttlStep c.kind s.ttl op := by
  cases op <;> rfl

theorem ttlOf_snoc (kind : Kind) (ttl0 : Nat) (pre : List Event) (e : Event) :
    ttlOf kind ttl0 (pre ++ [e]) = ttlStep kind (ttlOf kind ttl0 pre) e.op := by
  simp [ttlOf, List.foldl_append]

theorem ttlOf_const {kind : Kind} (hk : kind ≠ .utlru) (ttl0 : Nat) (pre : List Event) :
    ttlOf kind ttl0 pre = ttl0 := by
  unfold ttlOf
  induction pre generalizing ttl0 with
  | nil => rfl
  | cons e es ih =>
    simp only [List.foldl_cons]
    have : ttlStep kind ttl0 e.op = ttl0 := by
      unfold ttlStep
      split
      · exact if_neg (mt beq_iff_eq.1 hk)
      · rfl
    rw [this]; exact ih ttl0

def kindHasClear (kind : Kind) : Bool := kind == .utlru || kind == .utmap

def writes (kind : Kind) (ttl : Nat) (k : Key) (v : Val) (d : Time) (e : Event) : Prop :=
  writesO (dlEv kind ttl e.now) k v d e.op e.out

def touches (kind : Kind) (k : Key) (e : Event) : Prop := touchesO (kindHasClear kind) k e.op e.out

theorem writes_iff {kind : Kind} {ttl : Nat} {k : Key} {v : Val} {d : Time} {e : Event} :
    writes kind ttl k v d e ↔ ∃ t, wroteWith k v t e ∧ dlEv kind ttl e.now t = d :=
  writesO_iff

def evGhost (kind : Kind) (g : Key → Option Val) (e : Event) : Key → Option Val :=
  evGhostO (kindHasClear kind) g e.op e.out

/-- the event-level history variable: the value of the latest write of each key that the log shows, not since
forgotten -/
def lastWriteEv (kind : Kind) (evs : List Event) : Key → Option Val :=
  evs.foldl (evGhost kind) (fun _ => none)

theorem lastWriteEv_snoc (kind : Kind) (pre : List Event) (e : Event) :
    lastWriteEv kind (pre ++ [e]) = evGhost kind (lastWriteEv kind pre) e := by
  simp [lastWriteEv, List.foldl_append]

/-- `back_run` for one explained call, on the event: an entry resident after it was possibly written by it, or was
resident before and the call does not `touches` its key.  The induction step of `ChainInv.hist` and `.last`. -/
theorem back_call {c : Ctx} {s s' : RState} {x : XOut} {e : Event} {k : Key} {y : Val × Time}
    (hex : ExplainedD c s e.now e.op s' x) (hout : outOk x e.out = true) (hy : (absR s').get k = some y) :
    (writes c.kind s.ttl k y.1 y.2 e ∧ (detO e.op e.out → ∀ g, evGhost c.kind g e k = some y.1)) ∨
    ((absR s).get k = some y ∧ ¬ touches c.kind k e) := by
  obtain ⟨_, _, atoms, hoa, hrun⟩ := hex
  rw [deadline_eq] at hoa
  rcases back_run hrun hy with ⟨p, q, t, al, hat, hq⟩ | ⟨h0, hq⟩
  · -- the trace is the call's atoms, each at the call's clock reading: split the atoms as the trace is split
    obtain ⟨l1, _, rfl, rfl, h2⟩ := List.map_eq_append_iff.1 hat
    obtain ⟨_, l2, rfl, hz, rfl⟩ := List.map_eq_cons_iff.1 h2
    cases hz
    obtain ⟨hw, hg⟩ := write_observed hoa hout rfl fun z hz => hq _ (List.mem_map_of_mem hz)
    exact Or.inl ⟨hw, fun hdet g => hg hdet _ g⟩
  · exact Or.inr ⟨h0, not_touchesO_of_quiet hoa hout fun z hz => hq _ (List.mem_map_of_mem hz)⟩

/-- `(v, d)` under `k` has a writer in `pre`: event `j` may have written it (`writes`, the deadline computed with the
TTL configured at that point of the log), and no later event of `pre` certainly disturbed `k` (`touches`) -/
def Hist (kind : Kind) (ttl0 : Nat) (pre : List Event) (k : Key) (v : Val) (d : Time) : Prop :=
  ∃ j ej, pre[j]? = some ej ∧ writes kind (ttlOf kind ttl0 (pre.take j)) k v d ej ∧
    ∀ j' e', j < j' → pre[j']? = some e' → ¬ touches kind k e'

theorem hist_snoc_new {kind : Kind} {ttl0 : Nat} {pre : List Event} {k : Key} {v : Val} {d : Time} {e : Event}
    (h : writes kind (ttlOf kind ttl0 pre) k v d e) : Hist kind ttl0 (pre ++ [e]) k v d := by
  refine ⟨pre.length, e, List.getElem?_concat_length, by rw [List.take_left]; exact h, fun j' e' hj he' => ?_⟩
  rcases Conc.getElem?_snoc_cases he' with h1 | ⟨rfl, _⟩
  · exact absurd (Conc.lt_length_of_getElem? h1) (Nat.lt_asymm hj)
  · exact absurd hj (Nat.lt_irrefl _)

theorem hist_snoc_old {kind : Kind} {ttl0 : Nat} {pre : List Event} {k : Key} {v : Val} {d : Time} {e : Event}
    (h : Hist kind ttl0 pre k v d) (hq : ¬ touches kind k e) : Hist kind ttl0 (pre ++ [e]) k v d := by
  obtain ⟨j, ej, hj, hw, hlater⟩ := h
  have hjl := Conc.lt_length_of_getElem? hj
  refine ⟨j, ej, Conc.getElem?_snoc_left hj, ?_, ?_⟩
  · rw [List.take_append_of_le_length (Nat.le_of_lt hjl)]; exact hw
  · intro j' e' hjj he'
    rcases Conc.getElem?_snoc_cases he' with h1 | ⟨_, rfl⟩
    · exact hlater j' e' hjj h1
    · exact hq

/-- carried along the explaining chain: `pre` the events so far, `s` the reference state they led to.  `last` needs
the verdicts of all range inserts so far to be readable off their results: otherwise `lastWriteEv` does not know which
elements were written. -/
structure ChainInv (c : Ctx) (ttl0 : Nat) (pre : List Event) (s : RState) : Prop where
  ttl : s.ttl = ttlOf c.kind ttl0 pre
  size : c.fl ≠ .eager → (absR s).size ≤ c.cap
  hist : ∀ k y, (absR s).get k = some y → Hist c.kind ttl0 pre k y.1 y.2
  last : (∀ e ∈ pre, detO e.op e.out) → ∀ k y, (absR s).get k = some y → lastWriteEv c.kind pre k = some y.1

theorem ChainInv.step {c : Ctx} {ttl0 : Nat} {pre : List Event} {s s' : RState} {x : XOut} {e : Event}
    (hi : ChainInv c ttl0 pre s) (hex : ExplainedD c s e.now e.op s' x) (hout : outOk x e.out = true) :
    ChainInv c ttl0 (pre ++ [e]) s' where
  ttl := by rw [hex.2.1, ttlAfter_eq_ttlStep, hi.ttl, ttlOf_snoc]
  size := fun hfl => by
    obtain ⟨_, _, _, _, hrun⟩ := hex
    exact size_le_cap_run hfl (hi.size hfl) hrun
  hist := fun k y hy => by
    rcases back_call hex hout hy with ⟨hw, _⟩ | ⟨h0, hq⟩
    · exact hist_snoc_new (hi.ttl ▸ hw)
    · exact hist_snoc_old (hi.hist k y h0) hq
  last := fun hdet k y hy => by
    rw [lastWriteEv_snoc]
    rcases back_call hex hout hy with ⟨_, hg⟩ | ⟨h0, hq⟩
    · exact hg (hdet e (List.mem_append_right _ (List.mem_singleton_self e))) _
    · rw [evGhost, evGhostO_eq_of_not_touchesO hq]
      exact hi.last (fun e' he' => hdet e' (List.mem_append_left _ he')) k y h0

/-- the context `accept` judges a log in -/
def ctxOf (cfg : Cfg) (nkeys : Nat) : Ctx :=
  { kind := cfg.kind, fl := flavorOf cfg.kind, cap := cfg.cap, nkeys := nkeys }

/-- what the theorems of Part A start from: event `i` of an accepted log is an explained call that leads from a
reference state `s` with `ChainInv` of the events before it to a state `s'` showing the recorded observers
(`ChainInv.step` gives `ChainInv` of `evs.take i ++ [e]` at `s'`) -/
theorem accepted_event {cfg : Cfg} {nkeys : Nat} {evs : List Event} {m : Nat}
    (h : accept cfg nkeys evs = (none, m)) (hm : m ≤ candLimit) {i : Nat} {e : Event} (hi : evs[i]? = some e) :
    ∃ s s' x, ChainInv (ctxOf cfg nkeys) (cfg.ttl * msNs) (evs.take i) s ∧
      ExplainedD (ctxOf cfg nkeys) s e.now e.op s' x ∧ outOk x e.out = true ∧
      obsOk (ctxOf cfg nkeys) s' e.now e.obs = true :=
  (accept_soundD cfg nkeys evs m h hm).event (ChainInv (ctxOf cfg nkeys) (cfg.ttl * msNs)) ChainInv.step []
    ⟨rfl, fun _ => Nat.zero_le _, fun _ _ hy => (nomatch hy), fun _ _ _ hy => (nomatch hy)⟩ hi

/-- **C01 + C04, acceptor's verdict.**  A `find` / `find_with_use_count` that reports `v` for `k` comes after a call
that may have written `(k, v)` (`writes`), with no call in between that certainly disturbed `k` (`touches`: erased,
cleared, certainly overwritten), and in the four TTL containers strictly before the deadline `d` of that write, which
is computed from the log alone (`dlEv`, `ttlOf`; `0` and meaningless without TTL).
A partially successful range insert (result strictly between 0 and its length) may be the writer but never counts as
disturbing: the log does not show which of its elements succeeded.  Eviction and expiry are not writes; they turn a
hit into a miss, which the statement permits. -/
theorem find_hit_written (cfg : Cfg) (nkeys : Nat) (evs : List Event) (m : Nat)
    (h : accept cfg nkeys evs = (none, m)) (hm : m ≤ candLimit)
    (i : Nat) (ei : Event) (k : Key) (v : Val)
    (hi : evs[i]? = some ei) (hop : lookKey ei.op = some k) (hv : hitOf ei.out = some v) :
    ∃ j ej d, j < i ∧ evs[j]? = some ej ∧
      writes cfg.kind (ttlOf cfg.kind (cfg.ttl * msNs) (evs.take j)) k v d ej ∧
      (∀ j' e', j < j' → j' < i → evs[j']? = some e' → ¬ touches cfg.kind k e') ∧
      (flavorOf cfg.kind ≠ .plain → ei.now < d) := by
  obtain ⟨s, _, x, hinv, hex, hout, _⟩ := accepted_event h hm hi
  obtain ⟨d, hd, hlt⟩ := lookup_hit_resident hex hout hop hv
  obtain ⟨j, ej, hj, hw, hlater⟩ := hinv.hist k (v, d) hd
  have hji : j < i := Nat.lt_of_lt_of_le (Conc.lt_length_of_getElem? hj) (List.length_take_le ..)
  rw [List.getElem?_take_of_lt hji] at hj
  rw [List.take_take, Nat.min_eq_left (Nat.le_of_lt hji)] at hw
  refine ⟨j, ej, d, hji, hj, hw, fun j' e' hjj hj'i he' => hlater j' e' hjj ?_, hlt⟩
  rw [List.getElem?_take_of_lt hj'i]; exact he'

/-- **C01, acceptor's verdict, with the executable history variable**: the lookup reports exactly `lastWriteEv` of the
events before it.  Only for logs whose range inserts before event `i` each reported 0 or their length (`detO`; so for
logs without range inserts, or whose range inserts use `allow::insert_or_update`); otherwise use `find_hit_written`. -/
theorem find_hit_is_lastWriteEv (cfg : Cfg) (nkeys : Nat) (evs : List Event) (m : Nat)
    (h : accept cfg nkeys evs = (none, m)) (hm : m ≤ candLimit)
    (i : Nat) (ei : Event) (k : Key) (v : Val)
    (hdet : ∀ e ∈ evs.take i, detO e.op e.out)
    (hi : evs[i]? = some ei) (hop : lookKey ei.op = some k) (hv : hitOf ei.out = some v) :
    lastWriteEv cfg.kind (evs.take i) k = some v := by
  obtain ⟨s, _, x, hinv, hex, hout, _⟩ := accepted_event h hm hi
  obtain ⟨d, hd, _⟩ := lookup_hit_resident hex hout hop hv
  exact hinv.last hdet k (v, d) hd

/-- **C01, acceptor's verdict, every container**: a lookup that reports `v` for `k` comes after an `insert(k, v, …)`
that returned `true` or a range insert listing `(k, v, _)` that reported a success (`wroteWith`), with no call in
between that certainly disturbed `k`.  `find_hit_written` without the deadline. -/
theorem find_hit_has_writer (cfg : Cfg) (nkeys : Nat) (evs : List Event) (m : Nat)
    (h : accept cfg nkeys evs = (none, m)) (hm : m ≤ candLimit)
    (i : Nat) (ei : Event) (k : Key) (v : Val)
    (hi : evs[i]? = some ei) (hop : lookKey ei.op = some k) (hv : hitOf ei.out = some v) :
    ∃ j ej t, j < i ∧ evs[j]? = some ej ∧ wroteWith k v t ej ∧
      ∀ j' e', j < j' → j' < i → evs[j']? = some e' → ¬ touches cfg.kind k e' := by
  obtain ⟨j, ej, d, hji, hj, hw, hq, _⟩ := find_hit_written cfg nkeys evs m h hm i ei k v hi hop hv
  obtain ⟨t, hww, _⟩ := writes_iff.1 hw
  exact ⟨j, ej, t, hji, hj, hww, hq⟩

/-- **C04, acceptor's verdict, the four TTL containers**: as `find_hit_has_writer`, and the lookup's clock reading is
strictly before the writer's clock reading plus its TTL argument `t` ms (tlru_cache) or plus the TTL configured at that
point of the log (the others).  No reference state appears in the statement. -/
theorem find_hit_fresh (cfg : Cfg) (nkeys : Nat) (evs : List Event) (m : Nat)
    (h : accept cfg nkeys evs = (none, m)) (hm : m ≤ candLimit)
    (hfl : flavorOf cfg.kind ≠ .plain)
    (i : Nat) (ei : Event) (k : Key) (v : Val)
    (hi : evs[i]? = some ei) (hop : lookKey ei.op = some k) (hv : hitOf ei.out = some v) :
    ∃ j ej t, j < i ∧ evs[j]? = some ej ∧ wroteWith k v t ej ∧
      (∀ j' e', j < j' → j' < i → evs[j']? = some e' → ¬ touches cfg.kind k e') ∧
      ei.now < dlEv cfg.kind (ttlOf cfg.kind (cfg.ttl * msNs) (evs.take j)) ej.now t := by
  obtain ⟨j, ej, d, hji, hj, hw, hq, hlt⟩ := find_hit_written cfg nkeys evs m h hm i ei k v hi hop hv
  obtain ⟨t, hww, hd⟩ := writes_iff.1 hw
  exact ⟨j, ej, t, hji, hj, hww, hq, hd ▸ hlt hfl⟩

/-- **C04, `tlru_cache`**: the library never served an entry at or after its writer's clock reading plus `t` ms (at
the deadline itself the entry is expired).  The clause "not disturbed since" of `find_hit_fresh` is dropped. -/
theorem tlru_find_hit_fresh (cfg : Cfg) (hk : cfg.kind = .tlru) (nkeys : Nat) (evs : List Event) (m : Nat)
    (h : accept cfg nkeys evs = (none, m)) (hm : m ≤ candLimit)
    (i : Nat) (ei : Event) (k : Key) (v : Val)
    (hi : evs[i]? = some ei) (hop : lookKey ei.op = some k) (hv : hitOf ei.out = some v) :
    ∃ j ej t, j < i ∧ evs[j]? = some ej ∧ wroteWith k v t ej ∧ ei.now < ej.now + t * msNs := by
  obtain ⟨j, ej, t, hji, hj, hw, _, hlt⟩ :=
    find_hit_fresh cfg nkeys evs m h hm (by rw [hk]; decide) i ei k v hi hop hv
  rw [hk] at hlt
  exact ⟨j, ej, t, hji, hj, hw, hlt⟩

/-- **C04, `ut_map` / `ut_set`**: a hit comes strictly before its writer's clock reading plus the uniform TTL.  The
clause "not disturbed since" of `find_hit_fresh` is dropped. -/
theorem utmap_find_hit_fresh (cfg : Cfg) (hk : cfg.kind = .utmap ∨ cfg.kind = .utset) (nkeys : Nat)
    (evs : List Event) (m : Nat)
    (h : accept cfg nkeys evs = (none, m)) (hm : m ≤ candLimit)
    (i : Nat) (ei : Event) (k : Key) (v : Val)
    (hi : evs[i]? = some ei) (hop : lookKey ei.op = some k) (hv : hitOf ei.out = some v) :
    ∃ j ej t, j < i ∧ evs[j]? = some ej ∧ wroteWith k v t ej ∧ ei.now < ej.now + cfg.ttl * msNs := by
  obtain ⟨hfl, hne, hdl⟩ : flavorOf cfg.kind ≠ .plain ∧ cfg.kind ≠ .utlru ∧
      ∀ ttl now t, dlEv cfg.kind ttl now t = now + ttl := by
    rcases hk with hk | hk <;> rw [hk] <;> exact ⟨by decide, by decide, fun _ _ _ => rfl⟩
  obtain ⟨j, ej, t, hji, hj, hw, _, hlt⟩ := find_hit_fresh cfg nkeys evs m h hm hfl i ei k v hi hop hv
  rw [ttlOf_const hne, hdl] at hlt
  exact ⟨j, ej, t, hji, hj, hw, hlt⟩

theorem flavor_eager_iff {kind : Kind} : flavorOf kind = .eager ↔ kind.bounded = false := by
  cases kind <;> decide

theorem sweep_shows {c : Ctx} {s : RState} {now : Time} {o : Obs} (h : obsOk c s now o = true) :
    o.sweep.map (·.1) =
      (s.ents.filter (fun e => !(expired c.fl now e) && decide (e.key < c.nkeys))).map (·.key) := by
  have := congrArg (List.map (·.1)) (obsOk_sweep h)
  rw [sweepOf, List.map_map, List.map_map] at this
  exact this.symm

/-- **C02, acceptor's verdict**: `size()`, `empty()` and `capacity()` as the harness read them after every call are
consistent with each other, with the configured capacity and with the sweep (a side-effect-free lookup of every key
`0 .. nkeys-1`).  For ut_map / ut_set `capacity()` reads 0 by the harness's convention, and `size()` is the sweep's
length only right after a call that starts with the purge (the acceptor checks that on the observations themselves).
In the lazy-TTL caches the sweep may show fewer keys than `size()`: expired entries stay resident until touched.  The
last clause needs every inserted key inside the swept universe (`logOk`): a resident key outside it is invisible to
the sweep. -/
theorem observers_ok (cfg : Cfg) (nkeys : Nat) (evs : List Event) (m : Nat)
    (h : accept cfg nkeys evs = (none, m)) (hm : m ≤ candLimit) :
    ∀ e ∈ evs,
      e.obs.empty = (e.obs.size == 0) ∧
      e.obs.sweep.length ≤ e.obs.size ∧
      (e.obs.sweep.map (·.1)).Pairwise (· < ·) ∧
      (∀ x ∈ e.obs.sweep, x.1 < nkeys) ∧
      (cfg.kind.bounded = true → e.obs.size ≤ cfg.cap ∧ e.obs.cap = cfg.cap) ∧
      (cfg.kind.bounded = false → e.obs.cap = 0 ∧ (purges e.op = true → e.obs.size = e.obs.sweep.length)) ∧
      (flavorOf cfg.kind = .plain → logOk nkeys evs = true → e.obs.sweep.length = e.obs.size) := by
  intro e he
  obtain ⟨i, hi⟩ := List.getElem?_of_mem he
  obtain ⟨_, s', _, hinv, hex, hout, hobs⟩ := accepted_event h hm hi
  -- the recorded observers are those of the state after the call, so the invariant is needed at `s'`
  have hinv' := hinv.step hex hout
  have hflc : (ctxOf cfg nkeys).fl = flavorOf cfg.kind := rfl
  have hcapc : (ctxOf cfg nkeys).cap = cfg.cap := rfl
  have hnk : (ctxOf cfg nkeys).nkeys = nkeys := rfl
  have hwf := hex.1
  have hcap := hinv'.size
  obtain ⟨hsz, hem, hcp, -⟩ := obsOk_iff.mp hobs
  have hkeys := sweep_shows hobs
  have hlen := congrArg List.length hkeys
  rw [List.length_map, List.length_map] at hlen
  rw [hflc, hcapc] at hcp hcap
  refine ⟨?_, ?_, ?_, ?_, ?_, ?_, ?_⟩
  · rw [← hem, ← hsz]
  · rw [hlen, ← hsz]
    exact List.length_filter_le _ _
  · rw [hkeys, List.pairwise_map]
    exact List.Pairwise.filter _ hwf
  · intro x hx
    have : x.1 ∈ e.obs.sweep.map (·.1) := List.mem_map_of_mem hx
    rw [hkeys] at this
    obtain ⟨en, hen, hx⟩ := List.mem_map.1 this
    rw [← hx]
    exact of_decide_eq_true (Bool.and_eq_true_iff.1 (List.mem_filter.1 hen).2).2
  · intro hbd
    have hne : flavorOf cfg.kind ≠ .eager := fun hh => by
      rw [flavor_eager_iff.1 hh] at hbd; cases hbd
    rw [if_neg (mt beq_iff_eq.mp hne)] at hcp
    exact ⟨by rw [← hsz]; exact hcap hne, hcp.symm⟩
  · intro hbd
    have he' : flavorOf cfg.kind = .eager := flavor_eager_iff.2 hbd
    rw [if_pos (beq_iff_eq.mpr he')] at hcp
    refine ⟨hcp.symm, fun hp => ?_⟩
    unfold accept at h
    exact loop_eager_size h hm e he he' hp
  · intro hpl hlog
    -- nothing is expired, and every resident key is one its writer in the log inserted: inside the universe
    rw [hlen, ← hsz, List.filter_eq_self.mpr]
    intro en hen
    have hget : (absR s').get en.key = some (en.val, en.dl) :=
      absOf_get_some (getE_of_mem (Sorted.nodup hwf) hen)
    obtain ⟨j, ej, hj, hw, _⟩ := hinv'.hist _ _ hget
    have hej : ej ∈ evs := by
      rcases List.mem_append.1 (List.mem_of_getElem? hj) with hm | hm
      · exact List.mem_of_mem_take hm
      · rw [List.mem_singleton.1 hm]; exact he
    have : en.key < nkeys := insKeys_lt (List.all_eq_true.1 hlog ej hej) (writesO_insKeys hw)
    simp [expired, hflc, hpl, hnk, this]

/-- `tr` is an atom trace of the log: per event the atoms of its call (shape `OpAtoms`), stamped with its clock
reading, determining the recorded output -/
inductive LogAtoms : List Event → List (Time × Atom) → Prop
  | nil : LogAtoms [] []
  | cons {e es as x tr} : OpAtoms e.op as x → outOk x e.out = true → LogAtoms es tr →
      LogAtoms (e :: es) (as.map (fun a => (e.now, a)) ++ tr)

theorem _root_.Verif.Accept.ExplainsD.run {c : Ctx} {s : RState} {evs : List Event} (hex : ExplainsD c s evs) :
    ∃ tr s', LogAtoms evs tr ∧ ARun c.fl c.cap (absR s) tr (absR s') := by
  induction hex with
  | nil s => exact ⟨[], s, .nil, .nil _⟩
  | @cons s s' x e es h1 h2 _ _ ih =>
    obtain ⟨_, _, atoms, hoa, hrun⟩ := h1
    obtain ⟨tr, s'', hl, hr⟩ := ih
    exact ⟨_, s'', .cons hoa.toOpAtoms h2 hl, Spec.ARun.append hrun hr⟩

theorem absR_init (ttl : Nat) : absR { ents := [], ttl := ttl } = A.empty := rfl

/-- **An accepted log is one run of the reference semantics from the empty container**, so every fact of
`Spec/Props.lean` about runs (`lookup_hit_is_last_write`, `size_le_cap_run`, `retention_step`, `allow_verdict`,
`reap_exact`, `coupled_run`, …) holds of what the implementation did on that log. -/
theorem accepted_log_is_run (cfg : Cfg) (nkeys : Nat) (evs : List Event) (m : Nat)
    (h : accept cfg nkeys evs = (none, m)) (hm : m ≤ candLimit) :
    ∃ tr b, LogAtoms evs tr ∧ ARun (flavorOf cfg.kind) cfg.cap A.empty tr b := by
  obtain ⟨tr, s', hl, hr⟩ := (accept_soundD cfg nkeys evs m h hm).run
  exact ⟨tr, absR s', hl, hr⟩

/-- **C01/C04 at atom level, acceptor's verdict** (the statement of `Verified.C01`, for the implementation's log
instead of a model's history).  The history variable `Spec.lastWrite` ranges over atoms, with the per-element verdicts
the explanation chose, not over observed events: `find_hit_written` / `find_hit_is_lastWriteEv` are the event-level
forms.  Freshness is claimed for the lazy-TTL caches only. -/
theorem accepted_log_C01 (cfg : Cfg) (nkeys : Nat) (evs : List Event) (m : Nat)
    (h : accept cfg nkeys evs = (none, m)) (hm : m ≤ candLimit) :
    ∃ tr, LogAtoms evs tr ∧
      ∀ (p q : List (Time × Atom)) (now : Time) (k : Key) (pk : Bool) (v : Val) (n : Nat),
        tr = p ++ (now, .look k pk (some (v, n))) :: q →
        ∃ d, lastWrite p k = some (v, d) ∧ (flavorOf cfg.kind = .lazy → now < d) := by
  obtain ⟨tr, b, hl, hr⟩ := accepted_log_is_run cfg nkeys evs m h hm
  refine ⟨tr, hl, ?_⟩
  intro p q now k pk v n hsplit
  rw [hsplit] at hr
  exact lookup_hit_is_last_write hr

/-! ## Part B -/

/-- **C06, history checker's verdict.**  `some true` on the call records `hs` of a complete event history `h`
(`Records`: every invocation has its record, stamps are positions) makes `h` linearizable in the sense of Herlihy and
Wing for the executable container model started fresh: the concurrent calls of the C++ container returned what some
sequential ordering of the same calls, consistent with per-thread and real-time order, returns on the model. -/
theorem check_linearizable (cfg : Cfg) (hs : List HOp) (u : Nat) (h : CHistory)
    (hc : Lin.check cfg hs = (some true, u)) (hr : Records h hs) :
    Conc.Linearizable mstep (MState.init cfg) h := by
  obtain ⟨lin, hl⟩ := check_sound cfg hs u hc
  exact isLin_linearizable hr hl

/-- `MState.step` on the states of one kind, embedded by `emb`, is the bundle's public step: `rfl` for every kind -/
def Agrees {σ : Type} (V : Verified σ) (emb : σ → MState) : Prop :=
  ∀ s x, mstep (emb s) x = (emb (V.objStep s x).1, (V.objStep s x).2)

theorem legal_transfer {σ : Type} (V : Verified σ) (emb : σ → MState) (ha : Agrees V emb)
    {s : σ} {l : List ((Time × Op) × Out)} :
    Conc.Legal mstep (emb s) l ↔ Conc.Legal V.objStep s l := by
  induction l generalizing s with
  | nil => simp [Conc.Legal]
  | cons x r ih =>
    obtain ⟨op, out⟩ := x
    simp only [Conc.Legal, ha s op]
    rw [ih]

theorem isLinearization_transfer {σ : Type} (V : Verified σ) (emb : σ → MState) (ha : Agrees V emb)
    {h : CHistory} {lin : CLin} (hl : Conc.IsLinearization mstep (emb V.s0) h lin) :
    Conc.IsLinearization V.objStep V.s0 h lin :=
  ⟨(legal_transfer V emb ha).1 hl.legal, hl.isInv, hl.nodup, hl.complete, hl.progOrder, hl.realTime⟩

def opsOf (lin : List HOp) : List (Time × Op) := lin.map (fun o => (o.now, o.op))

theorem ops_toLin (lin : List HOp) : CLin.ops (lin.map toLin) = opsOf lin := by
  simp [CLin.ops, opsOf, toLin, List.map_map, Function.comp_def]

theorem outs_toLin (lin : List HOp) : CLin.outs (lin.map toLin) = lin.map (·.out) := by
  simp [CLin.outs, toLin, List.map_map, Function.comp_def]

theorem explains_of_isLin {σ : Type} (V : Verified σ) (emb : σ → MState) (ha : Agrees V emb)
    {h : CHistory} {hs lin : List HOp} (hr : Records h hs) (hl : IsLin (emb V.s0) hs lin) :
    V.Explains h (lin.map toLin) ∧ (V.c.run V.s0 (opsOf lin)).2 = lin.map (·.out) := by
  have h1 := isLinearization_transfer V emb ha (isLin_isLinearization hr hl)
  have h3 := (V.linearization_is_history h1).1
  exact ⟨⟨h1, h3⟩, by rwa [ops_toLin, outs_toLin] at h3⟩

theorem seqRules_of_isLin {σ : Type} (V : Verified σ) (emb : σ → MState) (ha : Agrees V emb)
    (htl : V.Timeless) {h : CHistory} {hs lin : List HOp}
    (hr : Records h hs) (hl : IsLin (emb V.s0) hs lin) :
    V.Explains h (lin.map toLin) ∧ (V.c.run V.s0 (opsOf lin)).2 = lin.map (·.out) ∧
      V.SeqRules (opsOf lin) :=
  have h := explains_of_isLin V emb ha hr hl
  ⟨h.1, h.2, V.seqRules_anyclock _ htl⟩

/-- `seqRules_of_isLin` for a container whose invariant mentions the clock (ut_map / ut_set): for orderings
whose clock readings do not decrease -/
theorem seqRules_of_isLin_mono {σ : Type} (V : Verified σ) (emb : σ → MState) (ha : Agrees V emb)
    {h : CHistory} {hs lin : List HOp}
    (hr : Records h hs) (hl : IsLin (emb V.s0) hs lin) (t0 : Time) (ht : TimesFrom t0 (opsOf lin)) :
    V.Explains h (lin.map toLin) ∧ (V.c.run V.s0 (opsOf lin)).2 = lin.map (·.out) ∧
      V.SeqRules (opsOf lin) :=
  have h := explains_of_isLin V emb ha hr hl
  ⟨h.1, h.2, V.seqRules_mono _ t0 ht⟩

/-- what a verdict `some true` of the history checker means for a container with bundle `V`: some ordering `lin` of
the recorded calls `hs` is the checker's linearization (`IsLin`), is a Herlihy–Wing linearization of `h` for the
container object that replays sequentially from the fresh container to exactly the recorded outputs (`V.Explains`), and
obeys the policy-independent sequential rules C01/C04, C02, C03, C05, C09, C17 (`V.SeqRules`) -/
def SeqExplained {σ : Type} (V : Verified σ) (m : MState) (h : CHistory) (hs : List HOp) : Prop :=
  ∃ lin, IsLin m hs lin ∧ V.Explains h (lin.map toLin) ∧
    (V.c.run V.s0 (opsOf lin)).2 = lin.map (·.out) ∧ V.SeqRules (opsOf lin)

/-- `SeqExplained` with the rules claimed only if the clock readings along `lin` do not decrease (ut_map / ut_set: the
invariant mentions the clock).  They do not in the order of the critical sections, since these containers read the
clock under the lock — but the checker is free to find another ordering. -/
def SeqExplainedMono {σ : Type} (V : Verified σ) (m : MState) (h : CHistory) (hs : List HOp) : Prop :=
  ∃ lin, IsLin m hs lin ∧ V.Explains h (lin.map toLin) ∧
    (V.c.run V.s0 (opsOf lin)).2 = lin.map (·.out) ∧
    (∀ t0, TimesFrom t0 (opsOf lin) → V.SeqRules (opsOf lin))

/-- **C06 with the sequential rules, history checker's verdict**, generic in the container.  For every kind `ha`
holds by `rfl` and `hinit` is `MState.init_<kind>`. -/
theorem check_seqRules {σ : Type} (V : Verified σ) (emb : σ → MState) (ha : Agrees V emb) (htl : V.Timeless)
    (cfg : Cfg) (hinit : MState.init cfg = emb V.s0) (hs : List HOp) (u : Nat) (h : CHistory)
    (hc : Lin.check cfg hs = (some true, u)) (hr : Records h hs) :
    SeqExplained V (MState.init cfg) h hs := by
  obtain ⟨lin, hl⟩ := check_sound cfg hs u hc
  exact ⟨lin, hl, seqRules_of_isLin V emb ha htl hr (hinit ▸ hl)⟩

theorem check_lru (cfg : Cfg) (hk : cfg.kind = .lru) (hcap : 0 < cfg.cap) (hs : List HOp) (u : Nat)
    (h : CHistory) (hc : Lin.check cfg hs = (some true, u)) (hr : Records h hs) :
    SeqExplained (lruV cfg.cap hcap) (MState.init cfg) h hs :=
  check_seqRules (lruV cfg.cap hcap) MState.lru (fun _ _ => rfl) (lruV_timeless _ _) cfg
    (MState.init_lru hk) hs u h hc hr

theorem check_mru (cfg : Cfg) (hk : cfg.kind = .mru) (hcap : 0 < cfg.cap) (hs : List HOp) (u : Nat)
    (h : CHistory) (hc : Lin.check cfg hs = (some true, u)) (hr : Records h hs) :
    SeqExplained (mruV cfg.cap hcap) (MState.init cfg) h hs :=
  check_seqRules (mruV cfg.cap hcap) MState.mru (fun _ _ => rfl) (mruV_timeless _ _) cfg
    (MState.init_mru hk) hs u h hc hr

theorem check_fifo (cfg : Cfg) (hk : cfg.kind = .fifo) (hcap : 0 < cfg.cap) (hs : List HOp) (u : Nat)
    (h : CHistory) (hc : Lin.check cfg hs = (some true, u)) (hr : Records h hs) :
    SeqExplained (fifoV cfg.cap hcap) (MState.init cfg) h hs :=
  check_seqRules (fifoV cfg.cap hcap) MState.fifo (fun _ _ => rfl) (fifoV_timeless _ _) cfg
    (MState.init_fifo hk) hs u h hc hr

/-- `cfg.rnd`: the random source's outcomes as the harness recorded them -/
theorem check_rr (cfg : Cfg) (hk : cfg.kind = .rr) (hcap : 0 < cfg.cap) (hrnd : ∀ r ∈ cfg.rnd, r < cfg.cap)
    (hs : List HOp) (u : Nat)
    (h : CHistory) (hc : Lin.check cfg hs = (some true, u)) (hr : Records h hs) :
    SeqExplained (rrV cfg.cap hcap cfg.rnd hrnd) (MState.init cfg) h hs :=
  check_seqRules (rrV cfg.cap hcap cfg.rnd hrnd) MState.rr (fun _ _ => rfl) (rrV_timeless _ _ _ _) cfg
    (MState.init_rr hk) hs u h hc hr

theorem check_lfu (cfg : Cfg) (hk : cfg.kind = .lfu) (hcap : 0 < cfg.cap) (hs : List HOp) (u : Nat)
    (h : CHistory) (hc : Lin.check cfg hs = (some true, u)) (hr : Records h hs) :
    SeqExplained (lfuV cfg.cap hcap) (MState.init cfg) h hs :=
  check_seqRules (lfuV cfg.cap hcap) MState.lfu (fun _ _ => rfl) (lfuV_timeless _ _) cfg
    (MState.init_lfu hk) hs u h hc hr

theorem check_lfuda (cfg : Cfg) (hk : cfg.kind = .lfuda) (hcap : 0 < cfg.cap) (hs : List HOp) (u : Nat)
    (h : CHistory) (hc : Lin.check cfg hs = (some true, u)) (hr : Records h hs) :
    SeqExplained (lfudaV cfg.cap hcap cfg.tick cfg.num cfg.den) (MState.init cfg) h hs :=
  check_seqRules (lfudaV cfg.cap hcap cfg.tick cfg.num cfg.den) MState.lfuda (fun _ _ => rfl) (lfudaV_timeless _ _ _ _ _) cfg
    (MState.init_lfuda hk) hs u h hc hr

/-- the rules include C04: a hit comes strictly before the deadline of the write it reports -/
theorem check_tlru (cfg : Cfg) (hk : cfg.kind = .tlru) (hcap : 0 < cfg.cap) (hs : List HOp) (u : Nat)
    (h : CHistory) (hc : Lin.check cfg hs = (some true, u)) (hr : Records h hs) :
    SeqExplained (tlruV cfg.cap hcap) (MState.init cfg) h hs :=
  check_seqRules (tlruV cfg.cap hcap) MState.tlru (fun _ _ => rfl) (tlruV_timeless _ _) cfg
    (MState.init_tlru hk) hs u h hc hr

theorem check_utlru (cfg : Cfg) (hk : cfg.kind = .utlru) (hcap : 0 < cfg.cap) (hs : List HOp) (u : Nat)
    (h : CHistory) (hc : Lin.check cfg hs = (some true, u)) (hr : Records h hs) :
    SeqExplained (utlruV cfg.cap hcap cfg.ttl) (MState.init cfg) h hs :=
  check_seqRules (utlruV cfg.cap hcap cfg.ttl) MState.utlru (fun _ _ => rfl) (utlruV_timeless _ _ _) cfg
    (MState.init_utlru hk) hs u h hc hr

/-- ut_map / ut_set: the rules are conditional on non-decreasing clock readings along the ordering found -/
theorem check_utmap (cfg : Cfg) (hk : cfg.kind = .utmap ∨ cfg.kind = .utset) (hs : List HOp) (u : Nat)
    (h : CHistory) (hc : Lin.check cfg hs = (some true, u)) (hr : Records h hs) :
    SeqExplainedMono (utmapV cfg.ttl) (MState.init cfg) h hs := by
  obtain ⟨lin, hl⟩ := check_sound cfg hs u hc
  obtain ⟨h1, h2⟩ :=
    explains_of_isLin (utmapV cfg.ttl) MState.utmap (fun _ _ => rfl) hr (MState.init_utmap hk ▸ hl)
  exact ⟨lin, hl, h1, h2, fun t0 ht => (utmapV cfg.ttl).seqRules_mono _ t0 ht⟩

/-! ## non-vacuity -/

namespace Example

/-- `now` is in ns, the TTL argument in ms: the `find` comes 1 ms after the inserts, inside the 5 ms of key 0 -/
def logA : List Event :=
  [mkEv 0 (.insert 0 1 .insertOrUpdate 5) (.bool true) 1 2 [(0, 1, 0)],
   mkEv 0 (.insert 1 1 .insertOrUpdate 9) (.bool true) 2 2 [(0, 1, 0), (1, 1, 0)],
   mkEv 1000000 (.find 0 false) (.opt (some 1)) 2 2 [(0, 1, 0), (1, 1, 0)]]

theorem logA_accepted : accept { kind := .tlru, cap := 2 } 4 logA = (none, 1) := by rfl

example : ∃ j ej t, j < 2 ∧ logA[j]? = some ej ∧ wroteWith 0 1 t ej ∧ 1000000 < ej.now + t * msNs :=
  tlru_find_hit_fresh { kind := .tlru, cap := 2 } rfl 4 logA 1 logA_accepted (by decide) 2 _ 0 1 rfl rfl rfl

example : lastWriteEv .tlru (logA.take 2) 0 = some 1 :=
  find_hit_is_lastWriteEv { kind := .tlru, cap := 2 } 4 logA 1 logA_accepted (by decide) 2 _ 0 1
    -- hdet: the two events before the lookup are single inserts, for which `detO` is `True` by definition
    (List.forall_mem_cons.2 ⟨trivial, List.forall_mem_cons.2 ⟨trivial, fun _ h => nomatch h⟩⟩) rfl rfl rfl

/-- the history variable is executable: the same fact by evaluation -/
example : lastWriteEv .tlru (logA.take 2) 0 = some 1 := by rfl

example : ∀ e ∈ logA, e.obs.size ≤ 2 ∧ e.obs.cap = 2 := fun e he =>
  ((observers_ok { kind := .tlru, cap := 2 } 4 logA 1 logA_accepted (by decide) e he).2.2.2.2.1 rfl)

/-- thread 0's `insert(1, 10)` overlaps thread 1's `find(1)`, which is invoked second, responds first and sees the
inserted value -/
def hB : CHistory :=
  [.inv 0 (5, .insert 1 10 .insertOrUpdate 0), .inv 1 (5, .find 1 false), .res 1 (.opt (some 10)), .res 0 (.bool true)]

def hsB : List HOp :=
  [⟨0, 0, 3, 5, .insert 1 10 .insertOrUpdate 0, .bool true⟩, ⟨1, 1, 2, 5, .find 1 false, .opt (some 10)⟩]

theorem hsB_checked : Lin.check { kind := .lru, cap := 2 } hsB = (some true, 2) := by
  have h1 : (Lru.core.step (Rec.init 2) 5 (Op.insert 1 10 .insertOrUpdate 0)).snd = Out.bool true := rfl
  have h2 : (Lru.core.step (Lru.core.step (Rec.init 2) 5 (Op.insert 1 10 Allow.insertOrUpdate 0)).fst 5
      (Op.find 1 false)).snd = Out.opt (some 10) := rfl
  simp [Lin.check, hsB, search, search.tryAll, minimal, removeAt_eq_eraseIdx, MState.init, MState.step, List.zipIdx,
    h1, h2]

theorem hsB_records : Records hB hsB :=
  records_nested (5, .insert 1 10 .insertOrUpdate 0) (5, .find 1 false) _ _

example : Conc.Linearizable mstep (MState.init { kind := .lru, cap := 2 }) hB :=
  check_linearizable _ hsB 2 hB hsB_checked hsB_records

example : SeqExplained (lruV 2 (by decide)) (MState.init { kind := .lru, cap := 2 }) hB hsB :=
  check_lru { kind := .lru, cap := 2 } rfl (by decide) hsB 2 hB hsB_checked hsB_records

end Example

end Verif.Capstone

#print axioms Verif.Capstone.find_hit_written
#print axioms Verif.Capstone.find_hit_has_writer
#print axioms Verif.Capstone.find_hit_is_lastWriteEv
#print axioms Verif.Capstone.observers_ok
#print axioms Verif.Capstone.find_hit_fresh
#print axioms Verif.Capstone.tlru_find_hit_fresh
#print axioms Verif.Capstone.utmap_find_hit_fresh
#print axioms Verif.Capstone.accepted_log_is_run
#print axioms Verif.Capstone.accepted_log_C01
#print axioms Verif.Capstone.check_linearizable
#print axioms Verif.Lin.isLin_isLinearization
#print axioms Verif.Capstone.seqRules_of_isLin
#print axioms Verif.Capstone.seqRules_of_isLin_mono
#print axioms Verif.Capstone.check_seqRules
#print axioms Verif.Capstone.check_lru
#print axioms Verif.Capstone.check_mru
#print axioms Verif.Capstone.check_fifo
#print axioms Verif.Capstone.check_rr
#print axioms Verif.Capstone.check_lfu
#print axioms Verif.Capstone.check_lfuda
#print axioms Verif.Capstone.check_tlru
#print axioms Verif.Capstone.check_utlru
#print axioms Verif.Capstone.check_utmap
#print axioms Verif.Capstone.Example.logA_accepted
#print axioms Verif.Capstone.Example.hsB_checked
#print axioms Verif.Capstone.Example.hsB_records
