import Verif.Spec.Lift
import Verif.Proofs.Refine.TlruLemmas
/-!
# Two-run properties on the models: C18 (range = singles in order) and C20 (clear = fresh)

C18 is proved once, for any per-call prologue (`Core.C18_general`): what is needed is a predicate that
holds right after the prologue, makes the prologue the identity, and is kept by the single-key
primitives (`Core.PreStable`).  For the eight caches the prologue does nothing and the predicate is `True`
(`Core.C18_preTrivial`); for ut_map / ut_set it is "every entry is alive" (Eager.lean).
-/
namespace Verif

/-- the single calls a range call stands for, in iteration order -/
def singles : Op → List Op
  | .insertRange xs a => xs.map (fun x => .insert x.1 x.2.1 a x.2.2)
  | .findRange ks peek => ks.map (fun k => .find k peek)
  | .eraseRange ks => ks.map (fun k => .erase k)
  | op => [op]

/-- how the results of the single calls add up to the result of the range call; any other call is its
own one single call and `aggregate` returns that call's result (`.unit` stands for "no result", which
`singles` never produces there) -/
def aggregate : Op → List Out → Out
  | .insertRange .., outs => .nat (outs.filter (· == .bool true)).length
  | .eraseRange .., outs => .nat (outs.filter (· == .bool true)).length
  | .findRange .., outs => .opts (outs.map (fun o => match o with | .opt v => v | _ => none))
  | _, outs => outs.headD .unit

theorem count_cons (b : Bool) {outs : List Out} {n : Nat} (h : (outs.filter (· == .bool true)).length = n) :
    ((Out.bool b :: outs).filter (· == .bool true)).length = (if b then 1 else 0) + n := by
  subst h
  cases b with
  | false =>
    rw [List.filter_cons_of_neg (by decide)]
    exact (Nat.zero_add _).symm
  | true =>
    rw [List.filter_cons_of_pos (by decide), List.length_cons]
    exact Nat.add_comm _ 1

namespace Core
variable {σ : Type} (c : Core σ)

/-- the per-call prologue does nothing (all but ut_map / ut_set).  The same clause is the field `pre` of
`Core.Inert` (NonInterference.lean), `Tlru.Like` (TlruLemmas.lean) and `Bisim.TtlCore` (BisimTlru.lean). -/
def PreTrivial : Prop := ∀ s now, c.pre s now = s

structure PreStable (now : Time) (P : σ → Prop) : Prop where
  pre_id : ∀ s, P s → c.pre s now = s
  insert1 : ∀ s k v a ttl, P s → P (c.insert1 s now k v a ttl).1
  find1 : ∀ s k peek, P s → P (c.find1 s now k peek).1
  erase1 : ∀ s k, P s → P (c.erase1 s k).1

theorem PreTrivial.preStable (hp : c.PreTrivial) (now : Time) : c.PreStable now (fun _ => True) :=
  ⟨fun s _ => hp s now, fun _ _ _ _ _ _ => trivial, fun _ _ _ _ => trivial, fun _ _ _ => trivial⟩

variable {c} {now : Time} {P : σ → Prop}

/-! The single calls of a range call, run from `s`, do what the loop of the range call does from the state
after the prologue: the first of them runs the prologue, and it leaves every later state alone.  (If there
is no first, nothing runs it: an empty range call still does, KF2.) -/

theorem run_singles_insert (hp : c.PreStable now P) (a : Allow) (xs : List (Key × Val × Nat)) :
    ∀ s, P (c.pre s now) → (xs = [] → c.pre s now = s) →
    (c.run s ((xs.map fun x => Op.insert x.1 x.2.1 a x.2.2).map fun o => (now, o))).1
      = (c.insertMany (c.pre s now) now a xs).1 ∧
    ((c.run s ((xs.map fun x => Op.insert x.1 x.2.1 a x.2.2).map fun o => (now, o))).2.filter
        (· == .bool true)).length = (c.insertMany (c.pre s now) now a xs).2 := by
  induction xs with
  | nil => exact fun s _ hnil => ⟨(hnil rfl).symm, rfl⟩
  | cons x xs ih =>
    obtain ⟨k, v, ttl⟩ := x
    intro s hs _
    have h1 := hp.insert1 _ k v a ttl hs
    have e1 := hp.pre_id _ h1
    have := ih _ (e1.symm ▸ h1) (fun _ => e1)
    rw [e1] at this
    exact ⟨this.1, count_cons _ this.2⟩

theorem run_singles_find (hp : c.PreStable now P) (peek : Bool) (ks : List Key) :
    ∀ s, P (c.pre s now) → (ks = [] → c.pre s now = s) →
    (c.run s ((ks.map fun k => Op.find k peek).map fun o => (now, o))).1
      = (c.findMany (c.pre s now) now peek ks).1 ∧
    ((c.run s ((ks.map fun k => Op.find k peek).map fun o => (now, o))).2.map
        (fun o => match o with | .opt v => v | _ => none)) = (c.findMany (c.pre s now) now peek ks).2 := by
  induction ks with
  | nil => exact fun s _ hnil => ⟨(hnil rfl).symm, rfl⟩
  | cons k ks ih =>
    intro s hs _
    have h1 := hp.find1 _ k peek hs
    have e1 := hp.pre_id _ h1
    have := ih _ (e1.symm ▸ h1) (fun _ => e1)
    rw [e1] at this
    exact ⟨this.1, congrArg (_ :: ·) this.2⟩

theorem run_singles_erase (hp : c.PreStable now P) (ks : List Key) :
    ∀ s, P (c.pre s now) → (ks = [] → c.pre s now = s) →
    (c.run s ((ks.map Op.erase).map fun o => (now, o))).1 = (c.eraseMany (c.pre s now) ks).1 ∧
    ((c.run s ((ks.map Op.erase).map fun o => (now, o))).2.filter (· == .bool true)).length
      = (c.eraseMany (c.pre s now) ks).2 := by
  induction ks with
  | nil => exact fun s _ hnil => ⟨(hnil rfl).symm, rfl⟩
  | cons k ks ih =>
    intro s hs _
    have h1 := hp.erase1 _ k hs
    have e1 := hp.pre_id _ h1
    have := ih _ (e1.symm ▸ h1) (fun _ => e1)
    rw [e1] at this
    exact ⟨this.1, count_cons _ this.2⟩

/-- C18, whatever the prologue: `P` holds after it, and the range is not empty unless it does nothing to `s`
(KF2). -/
theorem C18_general (hp : c.PreStable now P) (s : σ) (hpre : P (c.pre s now)) (op : Op)
    (hnil : singles op = [] → c.pre s now = s) :
    (c.run s ((singles op).map (fun o => (now, o)))).1 = (c.step s now op).1 ∧
    aggregate op (c.run s ((singles op).map (fun o => (now, o)))).2 = (c.step s now op).2 := by
  cases op with
  | insertRange xs a =>
    exact (run_singles_insert hp a xs s hpre fun h0 => hnil (h0 ▸ rfl)).imp id (congrArg Out.nat)
  | findRange ks peek =>
    exact (run_singles_find hp peek ks s hpre fun h0 => hnil (h0 ▸ rfl)).imp id (congrArg Out.opts)
  | eraseRange ks =>
    exact (run_singles_erase hp ks s hpre fun h0 => hnil (h0 ▸ rfl)).imp id (congrArg Out.nat)
  | _ => exact ⟨rfl, rfl⟩

variable (c)

/-- **C18** for the eight caches: a range call leaves the model in exactly the state the single
calls, applied in iteration order at the same clock reading, leave it in — so every later call
behaves the same — and its result is the aggregate of theirs. -/
theorem C18_preTrivial (hp : c.PreTrivial) (s : σ) (now : Time) (op : Op) :
    (c.run s ((singles op).map (fun o => (now, o)))).1 = (c.step s now op).1 ∧
    aggregate op (c.run s ((singles op).map (fun o => (now, o)))).2 = (c.step s now op).2 :=
  C18_general (hp.preStable c now) s trivial op (fun _ => hp s now)

end Core

theorem Lru.preTrivial : Lru.core.PreTrivial := fun _ _ => rfl
theorem Mru.preTrivial : Mru.core.PreTrivial := fun _ _ => rfl
theorem Fifo.preTrivial : Fifo.core.PreTrivial := fun _ _ => rfl
theorem Rr.preTrivial : Rr.core.PreTrivial := fun _ _ => rfl
theorem Lfu.preTrivial : Lfu.core.PreTrivial := fun _ _ => rfl
theorem Lfuda.preTrivial : Lfuda.core.PreTrivial := fun _ _ => rfl
theorem Tlru.preTrivial : Tlru.core.PreTrivial := fun _ _ => rfl
theorem Utlru.preTrivial : Utlru.core.PreTrivial := fun _ _ => rfl

/-- **C20, utlru_cache**: `clear()` leaves exactly the state of a newly constructed cache with the same
capacity and the currently configured TTL (so any continuation behaves identically on both). -/
theorem C20_utlru (s : TlruState) (ttlMs : Nat) (h : s.ttl = ttlMs * msNs) :
    (Utlru.core.step s now .clear).1 = Utlru.init s.cap ttlMs := by
  rw [Utlru.init, ← h]
  rfl

/-- **C20, ut_map**: likewise. -/
theorem C20_utmap (s : UtMapState) (ttlMs : Nat) (h : s.ttl = ttlMs * msNs) :
    (UtMap.core.step s now .clear).1 = UtMap.init ttlMs := by
  rw [UtMap.init, ← h]
  rfl

open Spec Tlru in
theorem Utlru.cstep_cfg {cap : Nat} {s s' : TlruState} {now : Time} {x : Atom}
    (h : (∃ m, s.ttl = m * msNs) ∧ s.cap = cap) (hs : CStep Utlru.core s now x s') :
    (∃ m, s'.ttl = m * msNs) ∧ s'.cap = cap := by
  have same : ∀ s' : TlruState, Same s s' → (∃ m, s'.ttl = m * msNs) ∧ s'.cap = cap :=
    fun s' e => ⟨e.1 ▸ h.1, e.2.trans h.2⟩
  cases hs with
  | ins k v a ttl => exact same _ (insert1_same s now k v a (now + s.ttl))
  | look k peek => exact same _ (find1_same s now k peek)
  | del k => exact same _ (erase1_same s k)
  | reap => exact same _ (clean_same s now)
  | setTtl t => exact ⟨⟨t, rfl⟩, h.2⟩
  | _ => exact h

/-- the configured TTL of a utlru model is always a whole number of milliseconds, and the capacity
never changes: every reachable state meets the hypothesis of `C20_utlru` -/
theorem Utlru.ttl_ms (cap ttlMs : Nat) (ops : List (Time × Op)) :
    ∃ m, (Utlru.core.run (Utlru.init cap ttlMs) ops).1.ttl = m * msNs ∧
      (Utlru.core.run (Utlru.init cap ttlMs) ops).1.cap = cap := by
  obtain ⟨⟨m, hm⟩, hc⟩ := Utlru.core.run_keeps (P := fun s => (∃ m, s.ttl = m * msNs) ∧ s.cap = cap)
    (fun _ _ _ _ => Utlru.cstep_cfg) (Utlru.init cap ttlMs) ops ⟨⟨ttlMs, rfl⟩, rfl⟩
  exact ⟨m, hm, hc⟩

end Verif
