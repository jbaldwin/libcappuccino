import Verif.Proofs.ModelLemmas
import Verif.Proofs.Refine.PlainInv
import Verif.Spec.Atoms
/-!
# `rr_cache` refines the plain reference semantics (every history, every random stream)

The invariant carries the slot bookkeeping: the slot ids of the resident entries together with the
free stack are a permutation of `0 .. cap-1`.  Hence a full cache has no free slot and every
`r < cap` names a resident entry (so `prune` always evicts exactly one), and a non-full cache has a
free slot to claim.
-/
namespace Verif
open Verif.Spec

namespace Rr

def slots (l : List Entry) : List Nat := l.map (·.slot)

structure Inv (cap : Nat) (s : RrState) : Prop where
  cap_eq : s.cap = cap
  cap_pos : 0 < cap
  nodup : (keys s.ents).Nodup
  dl0 : ∀ e ∈ s.ents, e.dl = 0
  rnd_lt : ∀ r ∈ s.rnd, r < cap
  perm : List.Perm (slots s.ents ++ s.free) (List.range cap)

def abs (s : RrState) : A := absOf s.ents

theorem inv_init {cap : Nat} (h : 0 < cap) (rnd : List Nat) (hr : ∀ r ∈ rnd, r < cap) :
    Inv cap (init cap rnd) :=
  ⟨rfl, h, List.nodup_nil, fun _ he => absurd he List.not_mem_nil, hr, List.Perm.refl (List.range cap)⟩

theorem Inv.len {cap : Nat} {s : RrState} (h : Inv cap s) : s.ents.length + s.free.length = cap := by
  have := h.perm.length_eq
  rwa [List.length_append, slots, List.length_map, List.length_range] at this

theorem inv_iff {cap : Nat} {s : RrState} :
    Inv cap s ↔ PlainInv cap s.cap s.ents ∧ (∀ r ∈ s.rnd, r < cap) ∧
      List.Perm (slots s.ents ++ s.free) (List.range cap) :=
  ⟨fun h => ⟨⟨h.cap_eq, h.cap_pos, h.nodup, Nat.le.intro h.len, h.dl0⟩, h.rnd_lt, h.perm⟩,
   fun h => ⟨h.1.cap_eq, h.1.cap_pos, h.1.nodup, h.1.dl0, h.2.1, h.2.2⟩⟩

theorem slots_setVal (l : List Entry) (k : Key) (v : Val) : slots (setVal l k v) = slots l := by
  simp only [slots, setVal, List.map_map]
  exact List.map_congr_left (fun e _ => by simp only [Function.comp]; split <;> rfl)

theorem slots_delE_perm {l : List Entry} (hn : (keys l).Nodup) {k : Key} {e : Entry}
    (hg : getE l k = some e) (f : List Nat) :
    List.Perm (slots (delE l k) ++ e.slot :: f) (slots l ++ f) := by
  have h1 : List.Perm (slots l) (e.slot :: slots (delE l k)) := by
    have := (delE_perm hn hg).map (·.slot)
    simpa [slots] using this
  have h2 : List.Perm (slots (delE l k) ++ e.slot :: f) (e.slot :: (slots (delE l k) ++ f)) :=
    List.perm_middle
  exact h2.trans ((h1.symm.append_right f))

theorem atSlot_some_of_mem {l : List Entry} {r : Nat} (h : r ∈ slots l) :
    ∃ e, atSlot l r = some e ∧ e ∈ l ∧ e.slot = r := by
  simp only [slots, List.mem_map] at h
  obtain ⟨x, hx, hxr⟩ := h
  cases ha : atSlot l r with
  | none =>
    simp only [atSlot, List.find?_eq_none] at ha
    have := ha x hx
    simp [hxr] at this
  | some e =>
    refine ⟨e, rfl, List.mem_of_find?_eq_some ha, ?_⟩
    have := List.find?_some ha
    simpa using this

theorem slots_push (l : List Entry) (e : Entry) (f : List Nat) :
    List.Perm (slots (l ++ [e]) ++ f) (slots l ++ e.slot :: f) := by
  simp [slots]

theorem drawn {cap : Nat} {s : RrState} (h : Inv cap s) (hfull : s.ents.length ≥ s.cap) :
    s.free = [] ∧ s.rnd.headD 0 < cap ∧
      ∃ e, atSlot s.ents (s.rnd.headD 0) = some e ∧ e ∈ s.ents ∧ e.slot = s.rnd.headD 0 := by
  -- `ents.length + free.length = cap ≤ ents.length`: no slot is free
  have hle : s.ents.length + s.free.length ≤ s.ents.length + 0 := by rw [h.len, ← h.cap_eq]; exact hfull
  have hfree : s.free = [] := List.eq_nil_of_length_eq_zero (Nat.le_zero.mp (Nat.le_of_add_le_add_left hle))
  have hr : s.rnd.headD 0 < cap := by
    cases hrl : s.rnd with
    | nil => exact h.cap_pos
    | cons r t => exact h.rnd_lt r (by rw [hrl]; exact List.mem_cons_self)
  refine ⟨hfree, hr, atSlot_some_of_mem ?_⟩
  have := h.perm.mem_iff.mpr (List.mem_range.mpr hr)
  rwa [hfree, List.append_nil] at this

theorem refines (cap : Nat) : Refines core .plain cap (fun _ => Inv cap) abs where
  mono _ _ _ h _ := h
  pre s now h := ⟨h, AStep.pre_self (by decide)⟩
  insert1 s now k v a ttl h := by
    obtain ⟨hp, hrnd, hsl⟩ := inv_iff.mp h
    cases hg : getE s.ents k with
    | some e =>
      simp only [core, insert1_some hg]
      by_cases ha : a.upd = true
      · rw [if_pos ha]
        obtain rfl := getE_key hg
        obtain ⟨h1, h2⟩ := hp.astep_ins_upd (now := now) hg ha (e' := { e with val := v }) rfl rfl rfl
          (replace_perm hp.nodup hg (fun x => { x with val := v }))
        exact ⟨inv_iff.mpr ⟨h1, hrnd, (slots_setVal s.ents e.key v).symm ▸ hsl⟩, h2⟩
      · rw [if_neg ha]
        exact ⟨h, PlainInv.astep_ins_keep hg ha⟩
    | none =>
      simp only [core, insert1_none hg]
      by_cases ha : a.ins = true
      · rw [if_pos ha]
        by_cases hfull : s.ents.length ≥ s.cap
        · -- full: the drawn entry goes, its slot is claimed at once
          obtain ⟨-, -, e, hat, hel, hes⟩ := drawn h hfull
          have hge := getE_of_mem h.nodup hel
          rw [if_pos hfull, prune_some hat]
          obtain ⟨h1, h2⟩ := hp.astep_ins_evict (e := { key := k, val := v, slot := s.rnd.headD 0 }) (now := now)
            hg ha rfl rfl hfull hge (snoc_perm _ _)
          refine ⟨inv_iff.mpr ⟨h1, fun r hr => hrnd r (List.mem_of_mem_tail hr), ?_⟩, h2⟩
          exact (slots_push _ _ s.free).trans ((hes ▸ slots_delE_perm h.nodup hge s.free).trans hsl)
        · rw [if_neg hfull, pushed]
          obtain ⟨h1, h2⟩ := hp.astep_ins_new (e := { key := k, val := v, slot := s.free.headD 0 }) (now := now)
            hg ha rfl rfl (Nat.lt_of_not_le hfull) (snoc_perm _ _)
          refine ⟨inv_iff.mpr ⟨h1, hrnd, ?_⟩, h2⟩
          cases hf : s.free with
          | nil =>
            -- no slot is free: `cap = ents.length`, against `hfull`
            have hlen : s.ents.length = s.cap := by rw [h.cap_eq, ← h.len, hf, List.length_nil, Nat.add_zero]
            exact absurd (Nat.le_of_eq hlen.symm) hfull
          | cons x f => rw [hf] at hsl; exact (slots_push _ _ f).trans hsl
      · rw [if_neg ha]
        exact ⟨h, PlainInv.astep_ins_rej hg ha⟩
  find1 s now k peek h := by
    simp only [core, Rr.find1, abs]
    refine ⟨h, ?_⟩
    cases hg : getE s.ents k with
    | none => exact PlainInv.astep_look_miss hg
    | some e => exact PlainInv.astep_look_hit hg rfl
  erase1 s now k h := by
    obtain ⟨hp, hrnd, hsl⟩ := inv_iff.mp h
    simp only [core, Rr.erase1, abs]
    cases hg : getE s.ents k with
    | none => exact ⟨h, PlainInv.astep_del_miss hg⟩
    | some e =>
      exact ⟨inv_iff.mpr ⟨hp.delE k, hrnd, (slots_delE_perm h.nodup hg s.free).trans hsl⟩, hp.astep_del_hit hg⟩
  clear s now hc h := nomatch hc
  clean s now h := ⟨h, AStep.reap_plain_self rfl⟩
  age s now h := ⟨h, rfl⟩
  updateTtl s _ t h := ⟨h, rfl⟩
  size s _ h := rfl
  capacity s _ h _ := h.cap_eq

end Rr
end Verif
