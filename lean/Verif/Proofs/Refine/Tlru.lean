import Verif.Proofs.Refine.TlruLemmas
/-!
# `tlru_cache` and `utlru_cache` refine the lazy reference semantics (every history)

The shared primitives (`Tlru.insert1` with an arbitrary deadline, `find1`, `erase1`, `clean`) are
proved once; the two cores differ only in the deadline they pass and in `clear` / `updateTtl`.
-/
namespace Verif
open Verif.Spec

namespace Tlru

/-- `Cons s.ents s.tq` (TlruLemmas.lean) written out, with `cap_eq`, `cap_pos`, `bound` for the capacity;
`Inv.cons` / `Inv.of_cons` convert. -/
structure Inv (cap : Nat) (s : TlruState) : Prop where
  cap_eq : s.cap = cap
  cap_pos : 0 < cap
  nodup : (keys s.ents).Nodup
  bound : s.ents.length ≤ cap
  tq_nodup : (s.tq.map (·.2)).Nodup
  tq_iff : ∀ d k, (d, k) ∈ s.tq ↔ ∃ e, getE s.ents k = some e ∧ e.dl = d
  sorted : s.tq.Pairwise (fun x y => x.1 ≤ y.1)

def abs (s : TlruState) : A := absOf s.ents

theorem Inv.cons {cap : Nat} {s : TlruState} (h : Inv cap s) : Cons s.ents s.tq :=
  ⟨h.nodup, h.tq_nodup, h.tq_iff, h.sorted⟩

theorem Inv.of_cons {cap : Nat} {s : TlruState} (h1 : s.cap = cap) (h2 : 0 < cap)
    (h3 : s.ents.length ≤ cap) (c : Cons s.ents s.tq) : Inv cap s :=
  ⟨h1, h2, c.nodup, h3, c.tq_nodup, c.tq_iff, c.sorted⟩

theorem inv_init {cap : Nat} (h : 0 < cap) : Inv cap (init cap) :=
  Inv.of_cons rfl h (by simp [init]) cons_nil

theorem Inv.removeKey {cap : Nat} {s : TlruState} (h : Inv cap s) (k : Key) : Inv cap (removeKey s k) :=
  Inv.of_cons h.cap_eq h.cap_pos (Nat.le_trans (length_delE_le _ _) h.bound) (h.cons.remove k)

theorem Inv.with_ttl {cap : Nat} {s : TlruState} (h : Inv cap s) (t : Nat) : Inv cap { s with ttl := t } :=
  ⟨h.cap_eq, h.cap_pos, h.nodup, h.bound, h.tq_nodup, h.tq_iff, h.sorted⟩

theorem Inv.cleared {cap : Nat} {s : TlruState} (h : Inv cap s) : Inv cap { s with ents := [], tq := [] } :=
  Inv.of_cons h.cap_eq h.cap_pos (Nat.zero_le _) cons_nil

theorem removeKey_spec {cap : Nat} {s : TlruState} (h : Inv cap s) {k : Key} {e : Entry}
    (hg : getE s.ents k = some e) :
    Inv cap (removeKey s k) ∧ (abs (removeKey s k)).get = (abs s).get.del k ∧
      (abs (removeKey s k)).size + 1 = (abs s).size :=
  ⟨h.removeKey k, Verif.absOf_delE _ _, length_delE_of_getE h.nodup hg⟩

/-- What `do_prune` does on a non-empty store: the head of the ttl structure (`k`, filed under the
deadline of its entry `ek`) carries the least deadline of all residents; it goes if it has expired,
the least recently used entry otherwise. -/
theorem prune_head {cap : Nat} {s : TlruState} (h : Inv cap s) {e0 : Entry} {t : List Entry}
    (hents : s.ents = e0 :: t) (now : Time) :
    ∃ k ek, getE s.ents k = some ek ∧ (∀ e ∈ s.ents, ek.dl ≤ e.dl) ∧
      prune s now = removeKey s (if ek.dl ≤ now then k else e0.key) := by
  cases htq : s.tq with
  | nil => have := h.cons.length_eq; rw [htq, hents] at this; cases this
  | cons x rest =>
    obtain ⟨d, k⟩ := x
    have hs := h.sorted
    rw [htq] at hs
    obtain ⟨ek, hg, rfl⟩ := (h.tq_iff d k).mp (htq ▸ List.mem_cons_self ..)
    refine ⟨k, ek, hg, fun e he => ?_, prune_cons htq hents now⟩
    have hm : (e.dl, e.key) ∈ s.tq :=
      (h.tq_iff e.dl e.key).mpr ⟨e, getE_of_mem h.nodup he, rfl⟩
    rcases List.mem_cons.mp (htq ▸ hm) with heq | hm'
    · exact Nat.le_of_eq (Prod.mk.inj heq).1.symm
    · exact (List.pairwise_cons.mp hs).1 _ hm'

theorem prune_spec {cap : Nat} {s : TlruState} (h : Inv cap s) (hfull : s.ents.length ≥ s.cap) (now : Time) :
    ∃ w e, getE s.ents w = some e ∧ prune s now = removeKey s w := by
  obtain ⟨e0, t, hents⟩ := List.exists_cons_of_ne_nil fun h0 : s.ents = [] => by
    rw [h0, h.cap_eq] at hfull; exact absurd hfull (Nat.not_le.mpr h.cap_pos)
  obtain ⟨k, ek, hg, -, hp⟩ := prune_head h hents now
  by_cases hd : ek.dl ≤ now
  · exact ⟨k, ek, hg, by rw [hp, if_pos hd]⟩
  · exact ⟨e0.key, e0, by rw [hents, getE_cons, if_pos rfl], by rw [hp, if_neg hd]⟩

theorem prune_expired {cap : Nat} {s : TlruState} (h : Inv cap s) {t now : Time} (htn : t ≤ now)
    (hexp : ∃ e ∈ s.ents, e.dl ≤ t) :
    ∃ w e, getE s.ents w = some e ∧ e.dl ≤ t ∧ prune s now = removeKey s w := by
  obtain ⟨e, he, hd⟩ := hexp
  obtain ⟨e0, t', hents⟩ := List.exists_cons_of_ne_nil (List.ne_nil_of_mem he)
  obtain ⟨k, ek, hg, hmin, hp⟩ := prune_head h hents now
  have hk := Nat.le_trans (hmin e he) hd
  exact ⟨k, ek, hg, hk, by rw [hp, if_pos (Nat.le_trans hk htn)]⟩

theorem prune_live {cap : Nat} {s : TlruState} (h : Inv cap s) {now : Time} {e0 : Entry}
    {t : List Entry} (hents : s.ents = e0 :: t) (hlive : ∀ e ∈ s.ents, now < e.dl) :
    prune s now = removeKey s e0.key := by
  obtain ⟨k, ek, hg, -, hp⟩ := prune_head h hents now
  rw [hp, if_neg (Nat.not_le.mpr (hlive ek (getE_mem hg)))]

theorem update_spec {cap : Nat} {s : TlruState} (h : Inv cap s) {e : Entry}
    (hg : getE s.ents e.key = some e) (v : Val) (d : Time) :
    Inv cap (update s e v d) ∧ (abs (update s e v d)).get = (abs s).get.set e.key (v, d) ∧
      (abs (update s e v d)).size = (abs s).size := by
  have hpm : (update s e v d).ents.Perm (_ :: delE s.ents e.key) := snoc_perm _ { e with val := v, dl := d }
  have hsz : (update s e v d).ents.length = s.ents.length := length_place_old h.nodup hpm hg
  exact ⟨Inv.of_cons h.cap_eq h.cap_pos (hsz ▸ h.bound)
    ((h.cons.remove e.key).add { e with val := v, dl := d } (not_mem_keys_delE_self _ _)),
    absOf_place h.nodup hpm, hsz⟩

theorem pushed_spec {cap : Nat} {s : TlruState} (h : Inv cap s) {k : Key} (hg : getE s.ents k = none)
    (hlt : s.ents.length < cap) (v : Val) (d : Time) :
    Inv cap (pushed s k v d) ∧ (abs (pushed s k v d)).get = (abs s).get.set k (v, d) ∧
      (abs (pushed s k v d)).size = (abs s).size + 1 := by
  have hpm := place_of_fresh (e := { key := k, val := v, dl := d }) hg (snoc_perm _ _)
  exact ⟨Inv.of_cons h.cap_eq h.cap_pos ((length_place_new hpm hg).symm ▸ hlt)
    (h.cons.add { key := k, val := v, dl := d } (getE_eq_none_iff.mp hg)),
    absOf_place h.nodup hpm, length_place_new hpm hg⟩

theorem insert1_spec {cap : Nat} {s : TlruState} (h : Inv cap s) (now : Time) (k : Key) (v : Val)
    (a : Allow) (d : Time) :
    Inv cap (insert1 s now k v a d).1 ∧
      AStep .lazy cap (abs s) now (.ins k v a d (insert1 s now k v a d).2) (abs (insert1 s now k v a d).1) := by
  cases hg : getE s.ents k with
  | some e =>
    obtain rfl := getE_key hg
    rw [insert1_some hg]
    split
    · rename_i hal
      obtain ⟨u1, u2, u3⟩ := update_spec h hg v d
      exact ⟨u1, (AStep.ins_upd (absOf_get_some hg) (hal.imp_right (⟨rfl, ·⟩))).mpr ⟨rfl, u2, u3⟩⟩
    · rename_i hal
      exact ⟨h, (AStep.ins_keep (absOf_get_some hg) (fun hh => hal (hh.imp_right (·.2)))).mpr ⟨rfl, rfl⟩⟩
  | none =>
    have hk : k ∉ keys s.ents := getE_eq_none_iff.mp hg
    rw [insert1_none hg]
    by_cases ha : a.ins = true
    · rw [if_pos ha]
      by_cases hfull : s.ents.length ≥ s.cap
      · rw [if_pos hfull]
        obtain ⟨w, ew, hw, hpr⟩ := prune_spec h hfull now
        obtain ⟨r1, r2, r3⟩ := removeKey_spec h hw
        have hlt : (removeKey s w).ents.length < cap :=
          calc (removeKey s w).ents.length + 1 = s.ents.length := r3
            _ ≤ cap := h.bound
        obtain ⟨p1, p2, p3⟩ := pushed_spec r1 (k := k)
          (getE_eq_none_iff.mpr fun hm => hk (mem_keys_delE.mp hm).1) hlt v d
        rw [hpr]
        exact ⟨p1, (AStep.ins_evict (absOf_get_none hg) ha ⟨by decide, h.cap_eq ▸ hfull⟩).mpr
          ⟨rfl, w, by rw [absOf_get_some hw]; rfl, p2.trans (congrArg (fun m => AMap.set m k (v, d)) r2),
            p3.trans r3⟩⟩
      · rw [if_neg hfull]
        have hlt : s.ents.length < cap := h.cap_eq ▸ Nat.lt_of_not_le hfull
        obtain ⟨p1, p2, p3⟩ := pushed_spec h hg hlt v d
        exact ⟨p1, (AStep.ins_new (absOf_get_none hg) ha (fun hh => Nat.not_le.mpr hlt hh.2)).mpr ⟨rfl, p2, p3⟩⟩
    · rw [if_neg ha]
      exact ⟨h, (AStep.ins_rej (absOf_get_none hg) ha).mpr ⟨rfl, rfl⟩⟩

theorem find1_spec {cap : Nat} {s : TlruState} (h : Inv cap s) (now : Time) (k : Key) (peek : Bool) :
    Inv cap (find1 s now k peek).1 ∧
      AStep .lazy cap (abs s) now (.look k peek (find1 s now k peek).2) (abs (find1 s now k peek).1) := by
  cases hg : getE s.ents k with
  | none => rw [find1_none hg]; exact ⟨h, (AStep.look_miss (absOf_get_none hg)).mpr ⟨rfl, rfl⟩⟩
  | some e =>
    obtain rfl := getE_key hg
    rw [find1_some hg]
    by_cases hd : now < e.dl
    · rw [if_pos hd]
      have hl : ¬ (Flavor.lazy = .lazy ∧ (e.val, e.dl).2 ≤ now) := fun hh => Nat.not_le.mpr hd hh.2
      cases peek with
      | true => exact ⟨h, (AStep.look_hit (absOf_get_some hg) hl).mpr ⟨rfl, rfl⟩⟩
      | false =>
        have hpm : (delE s.ents e.key ++ [e]).Perm (e :: delE s.ents e.key) := snoc_perm _ _
        have hsz := length_place_old h.nodup hpm hg
        refine ⟨Inv.of_cons h.cap_eq h.cap_pos (hsz ▸ h.bound) (h.cons.touch hg),
          (AStep.look_hit (absOf_get_some hg) hl).mpr ⟨rfl, A.ext ?_ hsz⟩⟩
        exact (absOf_place h.nodup hpm).trans (AMap.set_self (absOf_get_some hg))
    · rw [if_neg hd]
      obtain ⟨r1, r2, r3⟩ := removeKey_spec h hg
      exact ⟨r1, (AStep.look_exp (absOf_get_some hg) ⟨rfl, Nat.le_of_not_lt hd⟩).mpr ⟨rfl, r2, r3⟩⟩

theorem erase1_spec {cap : Nat} {s : TlruState} (h : Inv cap s) (now : Time) (k : Key) :
    Inv cap (erase1 s k).1 ∧ AStep .lazy cap (abs s) now (.del k (erase1 s k).2) (abs (erase1 s k).1) := by
  cases hg : getE s.ents k with
  | none => rw [erase1_none hg]; exact ⟨h, (AStep.del_miss (absOf_get_none hg)).mpr ⟨rfl, rfl⟩⟩
  | some e =>
    obtain ⟨r1, r2, r3⟩ := removeKey_spec h hg
    rw [erase1_some hg]
    exact ⟨r1, (AStep.del_hit (absOf_get_some hg)).mpr ⟨rfl, r2, r3⟩⟩

theorem clean_spec {cap : Nat} {s : TlruState} (h : Inv cap s) (now : Time) :
    Inv cap (clean s now).1 ∧ AStep .lazy cap (abs s) now (.reap (clean s now).2) (abs (clean s now).1) := by
  have hc := h.cons.reap now
  have hlen : (s.ents.filter (fun e => decide (now < e.dl))).length + (cleanLoop now s.tq).length
      = s.ents.length := by
    rw [← hc.length_eq, ← h.cons.length_eq]; exact cleanLoop_length h.sorted
  rw [clean_eq_filter h.cons]
  exact ⟨Inv.of_cons h.cap_eq h.cap_pos (Nat.le_trans (List.length_filter_le _ _) h.bound) hc,
    (AStep.reap_ne (fl := .lazy) (fun hh => nomatch hh)).mpr ⟨absOf_filter_reap h.nodup now, hlen⟩⟩

theorem refines (cap : Nat) : Refines core .lazy cap (fun _ => Inv cap) abs where
  mono _ _ _ h _ := h
  pre s now h := ⟨h, AStep.pre_self (by decide)⟩
  insert1 s now k v a ttl h := insert1_spec h now k v a (now + ttl * msNs)
  find1 s now k peek h := find1_spec h now k peek
  erase1 s now k h := erase1_spec h now k
  clear s now hc h := by simp [core] at hc
  clean s now h := clean_spec h now
  age s now h := ⟨h, rfl⟩
  updateTtl s _ t h := ⟨h, rfl⟩
  size s _ h := rfl
  capacity s _ h _ := h.cap_eq

end Tlru

namespace Utlru

theorem inv_init {cap : Nat} (h : 0 < cap) (ttlMs : Nat) : Tlru.Inv cap (init cap ttlMs) :=
  Tlru.Inv.of_cons rfl h (by simp [init]) Tlru.cons_nil

theorem refines (cap : Nat) : Refines core .lazy cap (fun _ => Tlru.Inv cap) Tlru.abs where
  mono _ _ _ h _ := h
  pre s now h := ⟨h, AStep.pre_self (by decide)⟩
  insert1 s now k v a ttl h := Tlru.insert1_spec h now k v a (now + s.ttl)
  find1 s now k peek h := Tlru.find1_spec h now k peek
  erase1 s now k h := Tlru.erase1_spec h now k
  clear s now _ h := ⟨h.cleared, rfl, rfl⟩
  clean s now h := Tlru.clean_spec h now
  age s now h := ⟨h, rfl⟩
  updateTtl s _ t h := ⟨h.with_ttl _, rfl⟩
  size s _ h := rfl
  capacity s _ h _ := h.cap_eq

end Utlru
end Verif
