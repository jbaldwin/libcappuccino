import Verif.Proofs.ModelLemmas
import Verif.Spec.Lift
/-!
# `ut_map` / `ut_set` refine the eager reference semantics (every history)

The ttl list is sorted by deadline because every deadline is `now + ttl` for a clock reading `now`
no later than the latest one, and the clock never goes back.  Hence dropping the maximal expired
prefix (`do_prune`) drops every expired entry.
-/
namespace Verif
open Verif.Spec

namespace UtMap

structure Inv (t : Time) (s : UtMapState) : Prop where
  nodup : (keys s.tq).Nodup
  sorted : List.Pairwise (fun x y => x.dl ≤ y.dl) s.tq
  /-- `t`: the latest clock reading so far (the index of `Refines`); a write at `now ≥ t` files `now + ttl` last -/
  bound : ∀ e ∈ s.tq, e.dl ≤ t + s.ttl

def abs (s : UtMapState) : A := absOf s.tq

theorem inv_nil (s : UtMapState) (t : Time) : Inv t { s with tq := [] } :=
  ⟨List.nodup_nil, List.Pairwise.nil, fun _ he => nomatch he⟩

theorem inv_init (ttlMs : Nat) (t : Time) : Inv t (init ttlMs) := inv_nil (init ttlMs) t

theorem purge_eq_filter {l : List Entry} (hs : List.Pairwise (fun x y => x.dl ≤ y.dl) l) (now : Time) :
    purge l now = l.filter (fun e => decide (now < e.dl)) :=
  dropWhile_le_of_sorted hs now

theorem purge_purge_of_le (l : List Entry) {t0 now : Time} (h : t0 ≤ now) :
    purge (purge l t0) now = purge l now := by
  induction l with
  | nil => rfl
  | cons e l ih =>
    by_cases h0 : e.dl ≤ t0
    · rw [purge_cons_le h0, purge_cons_le (Nat.le_trans h0 h), ih]
    · rw [purge_cons_gt h0]

theorem purged_add (l : List Entry) (now : Time) : (purge l now).length + purged l now = l.length := by
  rw [purge, purged, Nat.add_comm, ← List.length_append, List.takeWhile_append_dropWhile]

theorem Inv.sublist {t : Time} {s : UtMapState} (h : Inv t s) {l : List Entry} (hl : l.Sublist s.tq) :
    Inv t { s with tq := l } :=
  ⟨h.nodup.sublist (hl.map _), h.sorted.sublist hl, fun e he => h.bound e (hl.subset he)⟩

theorem Inv.snoc {now : Time} {s : UtMapState} (h : Inv now s) {e : Entry} (hk : e.key ∉ keys s.tq)
    (hd : e.dl = now + s.ttl) : Inv now { s with tq := s.tq ++ [e] } := by
  refine ⟨nodup_keys_snoc h.nodup hk, List.pairwise_append.mpr ⟨h.sorted, List.pairwise_singleton _ _, ?_⟩, ?_⟩
  · intro a ha b hb
    rw [List.mem_singleton.mp hb, hd]
    exact h.bound a ha
  · intro x hx
    rcases List.mem_append.mp hx with hx | hx
    · exact h.bound x hx
    · rw [List.mem_singleton.mp hx, hd]
      exact Nat.le_refl _

theorem pre_spec {s : UtMapState} {now : Time} (h : Inv now s) :
    Inv now { s with tq := purge s.tq now } ∧
    (absOf (purge s.tq now)).get = (absOf s.tq).get.reap now :=
  ⟨h.sublist (List.dropWhile_sublist _), purge_eq_filter h.sorted now ▸ absOf_filter_reap h.nodup now⟩

/-- `cap` is idle (the `.eager` reference semantics never reads it; ut_map is unbounded): the callers pass 0 -/
theorem refines (cap : Nat) : Refines core .eager cap Inv abs where
  mono s t t' h htt :=
    ⟨h.nodup, h.sorted, fun e he => Nat.le_trans (h.bound e he) (Nat.add_le_add_right htt _)⟩
  pre s now h := by
    obtain ⟨hi, hg⟩ := pre_spec h
    exact ⟨hi, (AStep.pre_eager rfl).mpr ⟨hg, Nat.le.intro (purged_add s.tq now)⟩⟩
  insert1 s now k v a ttl h := by
    simp only [core, UtMap.insert1, abs]
    cases hg : getE s.tq k with
    | some e =>
      obtain rfl := getE_key hg
      by_cases ha : a.upd = true
      · simp only [ha, if_true]
        have hpm := snoc_perm (delE s.tq e.key) { e with val := v, dl := now + s.ttl }
        exact ⟨(h.sublist List.filter_sublist).snoc (not_mem_keys_delE_self _ _) rfl,
          (AStep.ins_upd (absOf_get_some hg) (Or.inl ha)).mpr
            ⟨rfl, absOf_place h.nodup hpm, length_place_old h.nodup hpm hg⟩⟩
      · simp only [ha]
        exact ⟨h, (AStep.ins_keep (fl := .eager) (absOf_get_some hg)
          (fun hh => hh.elim ha (fun h' => nomatch h'.1))).mpr ⟨rfl, rfl⟩⟩
    | none =>
      by_cases ha : a.ins = true
      · simp only [ha, if_true]
        have hpm := place_of_fresh (e := { key := k, val := v, dl := now + s.ttl }) hg (snoc_perm s.tq _)
        exact ⟨h.snoc (getE_eq_none_iff.mp hg) rfl,
          (AStep.ins_new (absOf_get_none hg) ha (fun hh => hh.1 rfl)).mpr
            ⟨rfl, absOf_place h.nodup hpm, length_place_new hpm hg⟩⟩
      · simp only [ha]
        exact ⟨h, (AStep.ins_rej (absOf_get_none hg) ha).mpr ⟨rfl, rfl⟩⟩
  find1 s now k peek h := by
    simp only [core, UtMap.find1, abs]
    refine ⟨h, ?_⟩
    cases hg : getE s.tq k with
    | none => exact (AStep.look_miss (absOf_get_none hg)).mpr ⟨rfl, rfl⟩
    | some e => exact (AStep.look_hit (fl := .eager) (absOf_get_some hg) (fun hh => nomatch hh.1)).mpr ⟨rfl, rfl⟩
  erase1 s now k h := by
    simp only [core, UtMap.erase1, abs]
    cases hg : getE s.tq k with
    | none => exact ⟨h, (AStep.del_miss (absOf_get_none hg)).mpr ⟨rfl, rfl⟩⟩
    | some e =>
      exact ⟨h.sublist List.filter_sublist, (AStep.del_hit (absOf_get_some hg)).mpr
        ⟨rfl, absOf_delE _ _, length_delE_of_getE h.nodup hg⟩⟩
  clear s now _ h := ⟨inv_nil s now, rfl, rfl⟩
  clean s now h := by
    obtain ⟨hi, hg⟩ := pre_spec h
    exact ⟨hi, (AStep.reap_ne (fl := .eager) (fun hh => nomatch hh)).mpr ⟨hg, purged_add s.tq now⟩⟩
  age s now h := ⟨h, rfl⟩
  updateTtl s _ t h := ⟨h, rfl⟩
  size s _ h := rfl
  capacity s _ h hne := absurd rfl hne

end UtMap
end Verif
