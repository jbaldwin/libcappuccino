import Verif.Proofs.ModelLemmas
import Verif.Proofs.Refine.PlainInv
import Verif.Spec.Atoms
/-!
# `fifo_cache` refines the plain reference semantics (every history)
-/
namespace Verif
open Verif.Spec

namespace Fifo

structure Inv (cap : Nat) (s : FifoState) : Prop where
  cap_eq : s.cap = cap
  cap_pos : 0 < cap
  nodup : (keys s.ents).Nodup
  bound : s.ents.length ≤ cap
  dl0 : ∀ e ∈ s.ents, e.dl = 0

def abs (s : FifoState) : A := absOf s.ents

theorem inv_init {cap : Nat} (h : 0 < cap) : Inv cap (init cap) :=
  ⟨rfl, h, List.nodup_nil, Nat.zero_le _, fun _ he => nomatch he⟩

theorem inv_iff {cap : Nat} {s : FifoState} : Inv cap s ↔ PlainInv cap s.cap s.ents :=
  ⟨fun h => ⟨h.cap_eq, h.cap_pos, h.nodup, h.bound, h.dl0⟩, fun h => ⟨h.cap_eq, h.cap_pos, h.nodup, h.bound, h.dl0⟩⟩

theorem keys_setVal (l : List Entry) (k : Key) (v : Val) : keys (setVal l k v) = keys l :=
  keys_map_key (fun e => by split <;> rfl) l

theorem refines (cap : Nat) : Refines core .plain cap (fun _ => Inv cap) abs where
  mono _ _ _ h _ := h
  pre s now h := ⟨h, AStep.pre_self (by decide)⟩
  insert1 s now k v a ttl h := by
    have hp := inv_iff.mp h
    cases hg : getE s.ents k with
    | some e =>
      simp only [core, insert1_some hg]
      by_cases ha : a.upd = true
      · rw [if_pos ha]
        obtain rfl := getE_key hg
        exact (hp.astep_ins_upd hg ha (e' := { e with val := v }) rfl rfl rfl
          (replace_perm hp.nodup hg (fun x => { x with val := v }))).imp_left inv_iff.mpr
      · rw [if_neg ha]
        exact ⟨h, PlainInv.astep_ins_keep hg ha⟩
    | none =>
      simp only [core, insert1_none hg]
      by_cases ha : a.ins = true
      · rw [if_pos ha]
        exact (hp.astep_ins_create (e := { key := k, val := v }) hg ha rfl rfl
          (fun hf => exists_tail_eq_delE h.nodup (hp.ne_nil hf)) (snoc_perm _ _)).imp_left inv_iff.mpr
      · rw [if_neg ha]
        exact ⟨h, PlainInv.astep_ins_rej hg ha⟩
  find1 s now k peek h := by
    simp only [core, Fifo.find1, abs]
    refine ⟨h, ?_⟩
    cases hg : getE s.ents k with
    | none => exact PlainInv.astep_look_miss hg
    | some e => exact PlainInv.astep_look_hit hg rfl
  erase1 s now k h := by
    have hp := inv_iff.mp h
    simp only [core, Fifo.erase1, abs]
    cases hg : getE s.ents k with
    | none => exact ⟨h, PlainInv.astep_del_miss hg⟩
    | some e => exact ⟨inv_iff.mpr (hp.delE k), hp.astep_del_hit hg⟩
  clear s now hc h := nomatch hc
  clean s now h := ⟨h, AStep.reap_plain_self rfl⟩
  age s now h := ⟨h, rfl⟩
  updateTtl s _ t h := ⟨h, rfl⟩
  size s _ h := rfl
  capacity s _ h _ := h.cap_eq

end Fifo
end Verif
