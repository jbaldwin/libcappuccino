import Verif.ListLemmas
import Verif.Spec.AStepLemmas
/-!
# The bookkeeping invariant shared by the plain-flavor models, and the `AStep`s their list edits are

`PlainInv cap c l`: what `Rec.Inv`, `Fifo.Inv`, `Lfu.Inv`, `Lfuda.Inv` spell out field by field (and `Rr.Inv`
implies: its slot count gives the bound) as one predicate on (capacity, the state's capacity field, entries).
The per-model `Inv` structures are what the `refines` statements mention; each model has an `inv_iff` to here.
The edits of `ListLemmas.lean` keep it, and each is an `AStep` of the plain flavor on `absOf`: one lemma per
branch of a model's primitives, taking the branch's own hypotheses.  The branches that change nothing (a rejected
insert, a miss, a hit) need no `PlainInv`; their lemmas stand in this namespace all the same, so that the family is whole.
The prologue and `clean` are no list edits: in the plain flavor they are `AStep.pre_self` and `AStep.reap_plain_self`.
-/
namespace Verif
open Verif.Spec

structure PlainInv (cap c : Nat) (l : List Entry) : Prop where
  cap_eq : c = cap
  cap_pos : 0 < cap
  nodup : (keys l).Nodup
  bound : l.length ≤ cap
  /-- these models pass `dlOf = 0` in every `ins` atom, and `absOf` reads the deadline off the entry -/
  dl0 : ∀ e ∈ l, e.dl = 0

namespace PlainInv
variable {cap c : Nat} {l l' : List Entry}

theorem ne_nil (h : PlainInv cap c l) (hf : c ≤ l.length) : l ≠ [] := by
  intro h0; rw [h0, h.cap_eq] at hf; exact absurd hf (Nat.not_le.mpr h.cap_pos)

theorem delE (h : PlainInv cap c l) (k : Key) : PlainInv cap c (delE l k) :=
  ⟨h.cap_eq, h.cap_pos, nodup_keys_delE h.nodup k, Nat.le_trans (length_delE_le l k) h.bound,
   fun e he => h.dl0 e (mem_of_mem_delE he)⟩

/-- `l'` is `l` with `e` in the place of whatever had its key, anywhere in the list: every write of every plain
model.  `hroom`: the key was resident, or there is room for one more. -/
theorem place (h : PlainInv cap c l) {e : Entry} (hp : l'.Perm (e :: Verif.delE l e.key)) (he : e.dl = 0)
    (hroom : (getE l e.key).isSome = true ∨ l.length < cap) : PlainInv cap c l' := by
  refine ⟨h.cap_eq, h.cap_pos, nodup_keys_place h.nodup hp, ?_, ?_⟩
  · cases hg : getE l e.key with
    | some x => rw [length_place_old h.nodup hp hg]; exact h.bound
    | none =>
      rw [length_place_new hp hg]
      rcases hroom with hr | hr
      · rw [hg] at hr; cases hr
      · exact hr
  · intro x hx
    rcases mem_place hp hx with rfl | hx
    · exact he
    · exact h.dl0 x hx

/-- swapping a resident entry for one with the same key, value and deadline (only its position and the bookkeeping
fields `cnt`, `stamp`, `slot` may differ) does not move the abstraction: touch, access, aging -/
theorem replace_same (h : PlainInv cap c l) {e e' : Entry} (hg : getE l e.key = some e)
    (hk : e'.key = e.key) (hv : e'.val = e.val) (hd : e'.dl = e.dl)
    (hp : l'.Perm (e' :: Verif.delE l e'.key)) : PlainInv cap c l' ∧ absOf l' = absOf l := by
  have hg' : getE l e'.key = some e := hk ▸ hg
  refine ⟨h.place hp (hd.trans (h.dl0 e (getE_mem hg))) (Or.inl (by rw [hg']; rfl)), A.ext ?_ ?_⟩
  · rw [absOf_place h.nodup hp, hk, hv, hd]; exact AMap.set_self (absOf_get_some hg)
  · exact length_place_old h.nodup hp hg'

/-- an accepted update: the resident `e` gives way to `e'`, which carries the new value and the old deadline -/
theorem astep_ins_upd (h : PlainInv cap c l) {v : Val} {al : Allow} {e e' : Entry} {now : Time}
    (hg : getE l e.key = some e) (ha : al.upd = true) (hk : e'.key = e.key) (hv : e'.val = v) (hd : e'.dl = e.dl)
    (hp : l'.Perm (e' :: Verif.delE l e'.key)) :
    PlainInv cap c l' ∧ AStep .plain cap (absOf l) now (.ins e.key v al 0 true) (absOf l') := by
  have hg' : getE l e'.key = some e := hk ▸ hg
  have hd0 : e'.dl = 0 := hd.trans (h.dl0 e (getE_mem hg))
  refine ⟨h.place hp hd0 (Or.inl (by rw [hg']; rfl)),
    (AStep.ins_upd (absOf_get_some hg) (Or.inl ha)).mpr ⟨rfl, ?_, length_place_old h.nodup hp hg'⟩⟩
  rw [absOf_place h.nodup hp, hk, hv, hd0]

theorem astep_ins_keep {k : Key} {v : Val} {al : Allow} {now : Time} {e : Entry} (hg : getE l k = some e)
    (ha : ¬ al.upd = true) : AStep .plain cap (absOf l) now (.ins k v al 0 false) (absOf l) :=
  (AStep.ins_keep (fl := .plain) (absOf_get_some hg) (fun h => h.elim ha (fun h' => nomatch h'.1))).mpr ⟨rfl, rfl⟩

theorem astep_ins_rej {k : Key} {v : Val} {al : Allow} {now : Time} (hg : getE l k = none)
    (ha : ¬ al.ins = true) : AStep .plain cap (absOf l) now (.ins k v al 0 false) (absOf l) :=
  (AStep.ins_rej (absOf_get_none hg) ha).mpr ⟨rfl, rfl⟩

theorem astep_ins_new (h : PlainInv cap c l) {v : Val} {al : Allow} {now : Time} {e : Entry}
    (hg : getE l e.key = none) (ha : al.ins = true) (hv : e.val = v) (hd : e.dl = 0) (hf : l.length < c)
    (hp : l'.Perm (e :: l)) :
    PlainInv cap c l' ∧ AStep .plain cap (absOf l) now (.ins e.key v al 0 true) (absOf l') := by
  subst hv
  have hp' := place_of_fresh hg hp
  have hlt : l.length < cap := h.cap_eq ▸ hf
  refine ⟨h.place hp' hd (Or.inr hlt), ?_⟩
  refine (AStep.ins_new (absOf_get_none hg) ha (fun hh => Nat.not_le.mpr hlt hh.2)).mpr ⟨rfl, ?_, length_place_new hp' hg⟩
  rw [absOf_place h.nodup hp', hd]

theorem astep_ins_evict (h : PlainInv cap c l) {v : Val} {al : Allow} {now : Time} {e x : Entry} {w : Key}
    (hg : getE l e.key = none) (ha : al.ins = true) (hv : e.val = v) (hd : e.dl = 0) (hf : c ≤ l.length)
    (hw : getE l w = some x) (hp : l'.Perm (e :: Verif.delE l w)) :
    PlainInv cap c l' ∧ AStep .plain cap (absOf l) now (.ins e.key v al 0 true) (absOf l') := by
  subst hv
  have hwk : e.key ≠ w := fun hh => by rw [hh, hw] at hg; cases hg
  have hgb : getE (Verif.delE l w) e.key = none := by rw [getE_delE_ne hwk]; exact hg
  have hb := h.delE w
  have hp' := place_of_fresh hgb hp
  have hdl := length_delE_of_getE h.nodup hw
  have hlen : l'.length = l.length := by rw [length_place_new hp' hgb]; exact hdl
  refine ⟨hb.place hp' hd (Or.inr ?_), ?_⟩
  · calc (Verif.delE l w).length + 1 = l.length := hdl
      _ ≤ cap := h.bound
  · refine (AStep.ins_evict (absOf_get_none hg) ha ⟨by decide, h.cap_eq ▸ hf⟩).mpr ⟨rfl, w, ?_, ?_, hlen⟩
    · rw [absOf_get_some hw]; rfl
    · rw [absOf_place hb.nodup hp', absOf_delE, hd]

/-- for a model that writes `if full then pruned else l` (lru, mru, fifo, lfu) -/
theorem astep_ins_create (h : PlainInv cap c l) {v : Val} {al : Allow} {now : Time} {e : Entry} {pruned : List Entry}
    (hg : getE l e.key = none) (ha : al.ins = true) (hv : e.val = v) (hd : e.dl = 0)
    (hpr : c ≤ l.length → ∃ w x, getE l w = some x ∧ pruned = Verif.delE l w)
    (hp : l'.Perm (e :: if l.length ≥ c then pruned else l)) :
    PlainInv cap c l' ∧ AStep .plain cap (absOf l) now (.ins e.key v al 0 true) (absOf l') := by
  by_cases hf : l.length ≥ c
  · rw [if_pos hf] at hp
    obtain ⟨w, x, hw, rfl⟩ := hpr hf
    exact h.astep_ins_evict hg ha hv hd hf hw hp
  · rw [if_neg hf] at hp
    exact h.astep_ins_new hg ha hv hd (Nat.lt_of_not_le hf) hp

theorem astep_look_miss {k : Key} {pk : Bool} {now : Time} (hg : getE l k = none) :
    AStep .plain cap (absOf l) now (.look k pk none) (absOf l) :=
  (AStep.look_miss (absOf_get_none hg)).mpr ⟨rfl, rfl⟩

/-- a hit that leaves the abstraction as it is (peek; or `replace_same`) -/
theorem astep_look_hit {k : Key} {pk : Bool} {now : Time} {e : Entry} {n : Nat}
    (hg : getE l k = some e) (habs : absOf l' = absOf l) :
    AStep .plain cap (absOf l) now (.look k pk (some (e.val, n))) (absOf l') := by
  rw [habs]
  exact (AStep.look_hit (fl := .plain) (absOf_get_some hg) (fun hh => nomatch hh.1)).mpr ⟨rfl, rfl⟩

theorem astep_del_miss {k : Key} {now : Time} (hg : getE l k = none) :
    AStep .plain cap (absOf l) now (.del k false) (absOf l) :=
  (AStep.del_miss (absOf_get_none hg)).mpr ⟨rfl, rfl⟩

theorem astep_del_hit (h : PlainInv cap c l) {k : Key} {now : Time} {e : Entry} (hg : getE l k = some e) :
    AStep .plain cap (absOf l) now (.del k true) (absOf (Verif.delE l k)) :=
  (AStep.del_hit (absOf_get_some hg)).mpr ⟨rfl, absOf_delE l k, length_delE_of_getE h.nodup hg⟩

end PlainInv
end Verif
