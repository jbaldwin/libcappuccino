import Verif.Proofs.ModelLemmas
import Verif.Proofs.Refine.PlainInv
import Verif.Spec.Atoms
/-!
# `lfu_cache` refines the plain reference semantics (every history)

`fileCnt` (`multimap::emplace`) puts an entry somewhere into the list: up to order it is `e :: l`, and the
abstraction does not see the order.
-/
namespace Verif
open Verif.Spec

namespace Lfu

structure Inv (cap : Nat) (s : LfuState) : Prop where
  cap_eq : s.cap = cap
  cap_pos : 0 < cap
  nodup : (keys s.ents).Nodup
  bound : s.ents.length ≤ cap
  dl0 : ∀ e ∈ s.ents, e.dl = 0

def abs (s : LfuState) : A := absOf s.ents

theorem inv_init {cap : Nat} (h : 0 < cap) : Inv cap (init cap) :=
  ⟨rfl, h, List.nodup_nil, Nat.zero_le _, fun _ he => nomatch he⟩

theorem inv_iff {cap : Nat} {s : LfuState} : Inv cap s ↔ PlainInv cap s.cap s.ents :=
  ⟨fun h => ⟨h.cap_eq, h.cap_pos, h.nodup, h.bound, h.dl0⟩, fun h => ⟨h.cap_eq, h.cap_pos, h.nodup, h.bound, h.dl0⟩⟩

theorem access_perm (l : List Entry) (e : Entry) :
    (access l e).Perm ({ e with cnt := e.cnt + 1 } :: delE l e.key) := fileCnt_perm _ _

theorem refines (cap : Nat) : Refines core .plain cap (fun _ => Inv cap) abs where
  mono _ _ _ h _ := h
  pre s now h := ⟨h, AStep.pre_self (by decide)⟩
  insert1 s now k v a ttl h := by
    have hp := inv_iff.mp h
    cases hg : getE s.ents k with
    | some e =>
      simp only [core, insert1_some hg]
      obtain rfl := getE_key hg
      by_cases ha : a.upd = true
      · rw [if_pos ha]
        exact (hp.astep_ins_upd hg ha (e' := { e with val := v, cnt := e.cnt + 1 }) rfl rfl rfl
          (access_perm s.ents { e with val := v })).imp_left inv_iff.mpr
      · rw [if_neg ha]
        exact ⟨h, PlainInv.astep_ins_keep hg ha⟩
    | none =>
      simp only [core, insert1_none hg]
      by_cases ha : a.ins = true
      · rw [if_pos ha]
        exact (hp.astep_ins_create (e := { key := k, val := v, cnt := 1 }) hg ha rfl rfl
          (fun hf => exists_tail_eq_delE h.nodup (hp.ne_nil hf)) (fileCnt_perm _ _)).imp_left inv_iff.mpr
      · rw [if_neg ha]
        exact ⟨h, PlainInv.astep_ins_rej hg ha⟩
  find1 s now k peek h := by
    have hp := inv_iff.mp h
    cases hg : getE s.ents k with
    | none =>
      simp only [core, find1_none hg]
      exact ⟨h, PlainInv.astep_look_miss hg⟩
    | some e =>
      simp only [core, find1_some hg]
      obtain rfl := getE_key hg
      cases peek with
      | true => exact ⟨h, PlainInv.astep_look_hit hg rfl⟩
      | false =>
        obtain ⟨h1, h2⟩ := hp.replace_same (e' := { e with cnt := e.cnt + 1 }) hg rfl rfl rfl (access_perm s.ents e)
        exact ⟨inv_iff.mpr h1, PlainInv.astep_look_hit hg h2⟩
  erase1 s now k h := by
    have hp := inv_iff.mp h
    simp only [core, Lfu.erase1, abs]
    cases hg : getE s.ents k with
    | none => exact ⟨h, PlainInv.astep_del_miss hg⟩
    | some e => exact ⟨inv_iff.mpr (hp.delE k), hp.astep_del_hit hg⟩
  clear s now hc h := nomatch hc
  clean s now h := ⟨h, AStep.reap_plain_self rfl⟩
  age s now h := ⟨h, rfl⟩
  updateTtl s _ t h := ⟨h, rfl⟩
  size s _ h := rfl
  capacity s _ h _ := h.cap_eq

end Lfu
end Verif
