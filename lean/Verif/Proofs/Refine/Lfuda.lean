import Verif.Proofs.ModelLemmas
import Verif.Proofs.Refine.PlainInv
import Verif.Spec.Atoms
/-!
# `lfuda_cache` refines the plain reference semantics (every history)

The abstraction looks at `ents` only; the invariant says nothing about the age list.  Dynamic aging
re-files entries with a scaled count and a new stamp: per key, value and deadline are unchanged.
-/
namespace Verif
open Verif.Spec

namespace Lfuda

structure Inv (cap : Nat) (s : LfudaState) : Prop where
  cap_eq : s.cap = cap
  cap_pos : 0 < cap
  nodup : (keys s.ents).Nodup
  bound : s.ents.length ≤ cap
  dl0 : ∀ e ∈ s.ents, e.dl = 0

def abs (s : LfudaState) : A := absOf s.ents

theorem inv_init {cap : Nat} (h : 0 < cap) (tickMs num den : Nat) :
    Inv cap (init cap tickMs num den) :=
  ⟨rfl, h, List.nodup_nil, Nat.zero_le _, fun _ he => nomatch he⟩

theorem inv_iff {cap : Nat} {s : LfudaState} : Inv cap s ↔ PlainInv cap s.cap s.ents :=
  ⟨fun h => ⟨h.cap_eq, h.cap_pos, h.nodup, h.bound, h.dl0⟩, fun h => ⟨h.cap_eq, h.cap_pos, h.nodup, h.bound, h.dl0⟩⟩

theorem ageOne_spec {cap c : Nat} (now : Time) (num den : Nat) {l : List Entry} (k : Key)
    (h : PlainInv cap c l) : PlainInv cap c (ageOne now num den l k) ∧ absOf (ageOne now num den l k) = absOf l := by
  unfold ageOne
  cases hg : getE l k with
  | none => exact ⟨h, rfl⟩
  | some e =>
    obtain rfl := getE_key hg
    exact h.replace_same (e' := { e with cnt := e.cnt * num / den, stamp := now }) hg rfl rfl rfl
      (fileCnt_perm _ _)

theorem foldl_ageOne_spec {cap c : Nat} (now : Time) (num den : Nat) (ks : List Key) {l : List Entry}
    (h : PlainInv cap c l) :
    PlainInv cap c (ks.foldl (ageOne now num den) l) ∧ absOf (ks.foldl (ageOne now num den) l) = absOf l := by
  induction ks generalizing l with
  | nil => exact ⟨h, rfl⟩
  | cons k ks ih =>
    obtain ⟨h1, h2⟩ := ageOne_spec now num den k h
    obtain ⟨h3, h4⟩ := ih h1
    exact ⟨h3, h4.trans h2⟩

theorem dynAge_spec {cap : Nat} {s : LfudaState} (h : Inv cap s) (now : Time) :
    Inv cap (dynAge s now).1 ∧ abs (dynAge s now).1 = abs s := by
  obtain ⟨h1, h2⟩ := foldl_ageOne_spec now s.num s.den (s.age.takeWhile (idle s now)) (inv_iff.mp h)
  exact ⟨inv_iff.mpr h1, h2⟩

theorem length_dynAge {cap : Nat} {s : LfudaState} (h : Inv cap s) (now : Time) :
    (dynAge s now).1.ents.length = s.ents.length := congrArg A.size (dynAge_spec h now).2

theorem prune_spec {cap : Nat} {s : LfudaState} (h : Inv cap s) (hne : s.ents ≠ []) (now : Time) :
    (prune s now).cap = s.cap ∧ ∃ w x, getE (dynAge s now).1.ents w = some x ∧
      (prune s now).ents = delE (dynAge s now).1.ents w := by
  cases hl : (dynAge s now).1.ents with
  | nil => exact absurd (List.eq_nil_of_length_eq_zero (by rw [← length_dynAge h now, hl]; rfl)) hne
  | cons e t =>
    rw [prune_cons hl]
    exact ⟨rfl, e.key, e, by rw [getE_cons, if_pos rfl], congrArg (delE · e.key) hl⟩

theorem access_perm (s : LfudaState) (e : Entry) (now : Time) :
    (access s e now).ents.Perm ({ e with cnt := e.cnt + 1, stamp := now } :: delE s.ents e.key) :=
  fileCnt_perm _ _

theorem refines (cap : Nat) : Refines core .plain cap (fun _ => Inv cap) abs where
  mono _ _ _ h _ := h
  pre s now h := ⟨h, AStep.pre_self (by decide)⟩
  insert1 s now k v a ttl h := by
    have hp := inv_iff.mp h
    cases hg : getE s.ents k with
    | some e =>
      simp only [core, insert1_some hg]
      obtain rfl := getE_key hg
      by_cases ha : a.upd = true
      · rw [if_pos ha]
        exact (hp.astep_ins_upd hg ha (e' := { e with val := v, cnt := e.cnt + 1, stamp := now }) rfl rfl rfl
          (access_perm s { e with val := v } now)).imp_left inv_iff.mpr
      · rw [if_neg ha]
        exact ⟨h, PlainInv.astep_ins_keep hg ha⟩
    | none =>
      simp only [core, insert1_none hg]
      by_cases ha : a.ins = true
      · rw [if_pos ha]
        by_cases hfull : s.ents.length ≥ s.cap
        · -- full: `prune` ages first (invisible to the abstraction), then evicts from the aged list
          rw [if_pos hfull]
          obtain ⟨hi, habs⟩ := dynAge_spec h now
          have hg' : getE (dynAge s now).1.ents k = none :=
            Option.map_eq_none_iff.mp ((congrArg (·.get k) habs).trans (absOf_get_none hg))
          obtain ⟨hcap, w, x, hw, hpr⟩ := prune_spec h (hp.ne_nil hfull) now
          obtain ⟨h1, h2⟩ := (inv_iff.mp hi).astep_ins_evict
            (e := { key := k, val := v, cnt := 1, stamp := now }) (now := now) (al := a)
            (l' := fileCnt (prune s now).ents _) hg' ha rfl rfl
            ((length_dynAge h now).symm ▸ hfull) hw (by rw [← hpr]; exact fileCnt_perm _ _)
          rw [show absOf (dynAge s now).1.ents = absOf s.ents from habs] at h2
          exact ⟨inv_iff.mpr (hcap ▸ h1), h2⟩
        · rw [if_neg hfull]
          exact (hp.astep_ins_new (e := { key := k, val := v, cnt := 1, stamp := now }) hg ha rfl rfl
            (Nat.lt_of_not_le hfull) (fileCnt_perm _ _)).imp_left inv_iff.mpr
      · rw [if_neg ha]
        exact ⟨h, PlainInv.astep_ins_rej hg ha⟩
  find1 s now k peek h := by
    have hp := inv_iff.mp h
    cases hg : getE s.ents k with
    | none =>
      simp only [core, find1_none hg]
      exact ⟨h, PlainInv.astep_look_miss hg⟩
    | some e =>
      simp only [core, find1_some hg]
      obtain rfl := getE_key hg
      cases peek with
      | true => exact ⟨h, PlainInv.astep_look_hit hg rfl⟩
      | false =>
        obtain ⟨h1, h2⟩ := hp.replace_same (e' := { e with cnt := e.cnt + 1, stamp := now }) hg rfl rfl rfl
          (access_perm s e now)
        exact ⟨inv_iff.mpr h1, PlainInv.astep_look_hit hg h2⟩
  erase1 s now k h := by
    have hp := inv_iff.mp h
    simp only [core, Lfuda.erase1, abs]
    cases hg : getE s.ents k with
    | none => exact ⟨h, PlainInv.astep_del_miss hg⟩
    | some e => exact ⟨inv_iff.mpr (hp.delE k), hp.astep_del_hit hg⟩
  clear s now hc h := nomatch hc
  clean s now h := ⟨h, AStep.reap_plain_self rfl⟩
  age s now h := dynAge_spec h now
  updateTtl s _ t h := ⟨h, rfl⟩
  size s _ h := rfl
  capacity s _ h _ := h.cap_eq

end Lfuda
end Verif
