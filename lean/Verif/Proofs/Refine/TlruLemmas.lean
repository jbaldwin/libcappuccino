import Verif.Proofs.ModelLemmas
import Verif.ListLemmas
import Verif.Spec.Atoms
/-!
# What the tlru / utlru model functions compute (no invariant of a whole state needed)

* `Cons ents tq`: the ttl structure files exactly the residents, each once, sorted by deadline; removing, adding,
  touching and reaping keep it.  `Tlru.Inv` (Refine/Tlru.lean) is `Cons` with the capacity clauses.
* `clean_expired_values` leaves exactly the unexpired entries and filings (`clean_eq_filter`, the counterpart of
  `UtMap.purge_eq_filter`).
* `Same`: no primitive touches the configuration (BisimTlru.lean, Twin.lean).
* `Like c`: `c` is put together from tlru's primitives, as both cores are (`Tlru.like`, `Utlru.like`): the
  hypothesis of what is stated once for the two caches, C10 / C16 (Order/Tlru.lean) and C19 (NonInterference.lean).
-/
namespace Verif
open Verif.Spec

namespace Tlru

theorem mem_unfile {l : List (Time × Key)} {k : Key} {x : Time × Key} :
    x ∈ unfile l k ↔ x ∈ l ∧ x.2 ≠ k := by
  simp [unfile]

theorem unfile_sublist (l : List (Time × Key)) (k : Key) : (unfile l k).Sublist l :=
  List.filter_sublist

/-- consistency of the ttl structure with the resident entries -/
structure Cons (ents : List Entry) (tq : List (Time × Key)) : Prop where
  nodup : (keys ents).Nodup
  tq_nodup : (tq.map (·.2)).Nodup
  tq_iff : ∀ d k, (d, k) ∈ tq ↔ ∃ e, getE ents k = some e ∧ e.dl = d
  sorted : tq.Pairwise (fun x y => x.1 ≤ y.1)

theorem cons_nil : Cons [] [] :=
  ⟨by simp [keys], by simp, by simp, by simp⟩

theorem Cons.keys_perm {ents : List Entry} {tq : List (Time × Key)} (h : Cons ents tq) :
    (tq.map (·.2)).Perm (keys ents) := by
  refine (List.perm_ext_iff_of_nodup h.tq_nodup h.nodup).mpr fun k => ?_
  rw [mem_keys_iff_getE]
  constructor
  · intro hm
    obtain ⟨⟨d, k'⟩, hx, rfl⟩ := List.mem_map.mp hm
    obtain ⟨e, he, _⟩ := (h.tq_iff d k').mp hx
    exact ⟨e, he⟩
  · rintro ⟨e, hg⟩
    exact List.mem_map.mpr ⟨(e.dl, k), (h.tq_iff e.dl k).mpr ⟨e, hg, rfl⟩, rfl⟩

theorem Cons.length_eq {ents : List Entry} {tq : List (Time × Key)} (h : Cons ents tq) :
    tq.length = ents.length := by
  have := h.keys_perm.length_eq
  rwa [List.length_map, keys, List.length_map] at this

theorem Cons.remove {ents : List Entry} {tq : List (Time × Key)} (h : Cons ents tq) (k : Key) :
    Cons (delE ents k) (unfile tq k) where
  nodup := nodup_keys_delE h.nodup k
  tq_nodup := h.tq_nodup.sublist ((unfile_sublist tq k).map _)
  tq_iff d k' := by
    rw [mem_unfile, h.tq_iff]
    by_cases hk : k' = k
    · subst hk
      rw [getE_delE_self]
      exact ⟨fun h' => absurd rfl h'.2, fun ⟨_, he, _⟩ => nomatch he⟩
    · rw [getE_delE_ne hk]
      exact and_iff_left hk
  sorted := h.sorted.sublist (unfile_sublist tq k)

theorem Cons.add {ents : List Entry} {tq : List (Time × Key)} (h : Cons ents tq) (e' : Entry)
    (hk : e'.key ∉ keys ents) : Cons (ents ++ [e']) (fileDl tq e'.dl e'.key) where
  nodup := nodup_keys_snoc h.nodup hk
  tq_nodup := by
    rw [((fileDl_perm tq e'.dl e'.key).map (·.2)).nodup_iff, List.map_cons, List.nodup_cons]
    exact ⟨fun hm => hk (h.keys_perm.mem_iff.mp hm), h.tq_nodup⟩
  tq_iff d k := by
    have hnone : getE ents e'.key = none := getE_eq_none_iff.mpr hk
    rw [mem_fileDl, getE_place h.nodup (place_of_fresh hnone (snoc_perm ents e')), h.tq_iff]
    by_cases hkk : e'.key = k
    · subst hkk
      rw [if_pos rfl]
      constructor
      · rintro (hd | ⟨e, he, -⟩)
        · exact ⟨e', rfl, (congrArg Prod.fst hd).symm⟩
        · rw [hnone] at he
          cases he
      · rintro ⟨e, he, rfl⟩
        cases he
        exact Or.inl rfl
    · rw [if_neg hkk]
      exact or_iff_right fun hd => hkk (congrArg Prod.snd hd).symm
  sorted := fileDl_sorted h.sorted _ _

theorem Cons.touch {ents : List Entry} {tq : List (Time × Key)} (h : Cons ents tq) {k : Key}
    {e : Entry} (hg : getE ents k = some e) : Cons (delE ents k ++ [e]) tq := by
  obtain rfl := getE_key hg
  have hpm := snoc_perm (delE ents e.key) e
  refine ⟨nodup_keys_place h.nodup hpm, h.tq_nodup, fun d k' => ?_, h.sorted⟩
  rw [getE_place h.nodup hpm, h.tq_iff]
  split
  · rename_i hk; rw [← hk, hg]
  · rfl

theorem Cons.reap {ents : List Entry} {tq : List (Time × Key)} (h : Cons ents tq) (now : Time) :
    Cons (ents.filter (fun e => decide (now < e.dl))) (tq.filter (fun x => decide (now < x.1))) where
  nodup := h.nodup.sublist (keys_filter_sublist _ _)
  tq_nodup := h.tq_nodup.sublist (List.filter_sublist.map _)
  tq_iff d k := by
    rw [List.mem_filter, h.tq_iff, getE_filter h.nodup]
    constructor
    · rintro ⟨⟨e, he, rfl⟩, hd⟩
      exact ⟨e, Option.filter_eq_some_iff.mpr ⟨he, hd⟩, rfl⟩
    · rintro ⟨e, he, rfl⟩
      obtain ⟨he, hd⟩ := Option.filter_eq_some_iff.mp he
      exact ⟨⟨e, he, rfl⟩, hd⟩
  sorted := h.sorted.sublist List.filter_sublist

theorem getE_of_getE_removeKey {s : TlruState} {k' k : Key} {e : Entry}
    (h : getE (removeKey s k').ents k = some e) : getE s.ents k = some e := by
  simp only [removeKey] at h
  by_cases hk : k = k'
  · subst hk; rw [getE_delE_self] at h; cases h
  · rw [getE_delE_ne hk] at h; exact h

theorem getE_of_getE_foldl_removeKey {ks : List Key} {s : TlruState} {k : Key} {e : Entry}
    (h : getE (ks.foldl removeKey s).ents k = some e) : getE s.ents k = some e := by
  induction ks generalizing s with
  | nil => exact h
  | cons k1 ks ih => exact getE_of_getE_removeKey (ih h)

theorem foldl_removeKey_eq (ks : List Key) (s : TlruState) :
    ks.foldl removeKey s = { s with ents := s.ents.filter (fun e => !decide (e.key ∈ ks)),
                                    tq := s.tq.filter (fun x => !decide (x.2 ∈ ks)) } := by
  induction ks generalizing s with
  | nil =>
    have h1 : ∀ {α : Type} (l : List α), l.filter (fun _ => true) = l := fun l =>
      List.filter_eq_self.mpr fun _ _ => rfl
    simp [h1]
  | cons k ks ih =>
    rw [List.foldl_cons, ih]
    have hb (a : Key) : (!decide (a ∈ ks) && !decide (a = k)) = !decide (a ∈ k :: ks) := by
      simp only [List.mem_cons, Bool.decide_or, Bool.not_or, Bool.and_comm]
    -- `removeKey s k` filters `k` out of both lists, and two filters are one
    simp only [removeKey, delE, unfile, List.filter_filter, hb]

theorem cleanLoop_eq (now : Time) (tq : List (Time × Key)) :
    cleanLoop now tq = (tq.takeWhile (fun x => decide (x.1 ≤ now))).map (·.2) := by
  induction tq with
  | nil => rfl
  | cons x rest ih =>
    by_cases hd : x.1 ≤ now
    · simp only [cleanLoop, List.takeWhile_cons, hd, decide_true, if_true, List.map_cons, ih]
    · simp only [cleanLoop, List.takeWhile_cons, hd, decide_false, if_false, Bool.false_eq_true, List.map_nil]

theorem Cons.mem_cleanLoop_iff {ents : List Entry} {tq : List (Time × Key)} (h : Cons ents tq)
    (now : Time) (k : Key) : k ∈ cleanLoop now tq ↔ ∃ e, getE ents k = some e ∧ e.dl ≤ now := by
  rw [cleanLoop_eq, takeWhile_le_of_sorted h.sorted, List.mem_map]
  constructor
  · rintro ⟨⟨d, k'⟩, hx, rfl⟩
    obtain ⟨hm, hd⟩ := List.mem_filter.mp hx
    obtain ⟨e, he, rfl⟩ := (h.tq_iff d k').mp hm
    exact ⟨e, he, of_decide_eq_true hd⟩
  · rintro ⟨e, he, hd⟩
    exact ⟨(e.dl, k), List.mem_filter.mpr ⟨(h.tq_iff e.dl k).mpr ⟨e, he, rfl⟩, decide_eq_true hd⟩, rfl⟩

theorem cleanLoop_length {now : Time} {tq : List (Time × Key)} (hs : tq.Pairwise (fun x y => x.1 ≤ y.1)) :
    (tq.filter (fun x => decide (now < x.1))).length + (cleanLoop now tq).length = tq.length := by
  rw [cleanLoop_eq, List.length_map, ← dropWhile_le_of_sorted hs, Nat.add_comm, ← List.length_append,
    List.takeWhile_append_dropWhile]

theorem clean_eq_filter {s : TlruState} (h : Cons s.ents s.tq) (now : Time) :
    (clean s now).1 = { s with ents := s.ents.filter (fun e => decide (now < e.dl)),
                               tq := s.tq.filter (fun x => decide (now < x.1)) } := by
  have key : ∀ k e, getE s.ents k = some e →
      (!decide (k ∈ cleanLoop now s.tq)) = decide (now < e.dl) := by
    intro k e hg
    have := h.mem_cleanLoop_iff now k
    rw [hg] at this
    simp only [Option.some.injEq, exists_eq_left'] at this
    by_cases hd : e.dl ≤ now
    · simp [this, hd, Nat.not_lt.mpr hd]
    · simp [this, hd, Nat.lt_of_not_le hd]
  simp only [clean, foldl_removeKey_eq]
  congr 1
  · exact List.filter_congr fun e he => key _ e (getE_of_mem h.nodup he)
  · refine List.filter_congr ?_
    rintro ⟨d, k⟩ hx
    obtain ⟨e, hg, rfl⟩ := (h.tq_iff d k).mp hx
    exact key k e hg

/-- `s'` has the configuration of `s` (capacity, configured TTL): no primitive touches it -/
def Same (s s' : TlruState) : Prop := s'.ttl = s.ttl ∧ s'.cap = s.cap

theorem Same.refl (s : TlruState) : Same s s := ⟨rfl, rfl⟩

theorem removeKey_same (s : TlruState) (k : Key) : Same s (removeKey s k) := ⟨rfl, rfl⟩

theorem update_same (s : TlruState) (e : Entry) (v : Val) (d : Time) : Same s (update s e v d) := ⟨rfl, rfl⟩

theorem prune_same (s : TlruState) (now : Time) : Same s (prune s now) := by
  unfold prune
  split
  · exact Same.refl s
  · split
    · exact removeKey_same s _
    · split
      · exact Same.refl s
      · exact removeKey_same s _

theorem insert1_same (s : TlruState) (now : Time) (k : Key) (v : Val) (a : Allow) (d : Time) :
    Same s (insert1 s now k v a d).1 := by
  cases hg : getE s.ents k with
  | some e =>
    rw [insert1_some hg]
    by_cases hc : a.upd = true ∨ (a.ins = true ∧ e.dl ≤ now)
    · rw [if_pos hc]; exact update_same s e v d
    · rw [if_neg hc]; exact Same.refl s
  | none =>
    rw [insert1_none hg]
    by_cases ha : a.ins = true
    · rw [if_pos ha]
      by_cases hf : s.ents.length ≥ s.cap
      · rw [if_pos hf]; exact prune_same s now
      · rw [if_neg hf]; exact Same.refl s
    · rw [if_neg ha]; exact Same.refl s

theorem find1_same (s : TlruState) (now : Time) (k : Key) (peek : Bool) : Same s (find1 s now k peek).1 := by
  cases hg : getE s.ents k with
  | none => rw [find1_none hg]; exact Same.refl s
  | some e =>
    rw [find1_some hg]
    by_cases hd : now < e.dl
    · rw [if_pos hd]; cases peek <;> exact ⟨rfl, rfl⟩
    · rw [if_neg hd]; exact removeKey_same s k

theorem erase1_same (s : TlruState) (k : Key) : Same s (erase1 s k).1 := by
  cases hg : getE s.ents k with
  | none => rw [erase1_none hg]; exact Same.refl s
  | some e => rw [erase1_some hg]; exact removeKey_same s k

theorem clean_same (s : TlruState) (now : Time) : Same s (clean s now).1 := by
  rw [clean, foldl_removeKey_eq]; exact ⟨rfl, rfl⟩

/-- What tlru_cache and utlru_cache share: tlru's keyed primitives and `clean`, a write carrying the deadline
`c.dlOf` gives; no prologue (`pre` is `Core.PreTrivial` of Twin.lean).  Of `updateTtl` and `clear`, where the two
differ, only the effect on `.ents` is stated. -/
structure Like (c : Core TlruState) : Prop where
  pre : ∀ s now, c.pre s now = s
  ins : ∀ s now k v a ttl, c.insert1 s now k v a ttl = insert1 s now k v a (c.dlOf s now ttl)
  find : ∀ s now k p, c.find1 s now k p = find1 s now k p
  erase : ∀ s k, c.erase1 s k = erase1 s k
  clean : ∀ s now, c.clean s now = clean s now
  age : ∀ s now, (c.age s now).1 = s
  ttl : ∀ s t, (c.updateTtl s t).ents = s.ents
  clear : c.hasClear = true → ∀ s, (c.clear s).ents = []

theorem like : Like core where
  pre _ _ := rfl
  ins _ _ _ _ _ _ := rfl
  find _ _ _ _ := rfl
  erase _ _ := rfl
  clean _ _ := rfl
  age _ _ := rfl
  ttl _ _ := rfl
  clear h := by simp [core] at h

end Tlru

theorem Utlru.like : Tlru.Like Utlru.core where
  pre _ _ := rfl
  ins _ _ _ _ _ _ := rfl
  find _ _ _ _ := rfl
  erase _ _ := rfl
  clean _ _ := rfl
  age _ _ := rfl
  ttl _ _ := rfl
  clear _ _ := rfl

end Verif
