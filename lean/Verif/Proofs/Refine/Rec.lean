import Verif.Proofs.ModelLemmas
import Verif.Proofs.Refine.PlainInv
import Verif.Spec.Atoms
/-!
# `lru_cache` and `mru_cache` refine the plain reference semantics (every history, either victim end)
-/
namespace Verif
open Verif.Spec

namespace Rec

structure Inv (cap : Nat) (s : RecState) : Prop where
  cap_eq : s.cap = cap
  cap_pos : 0 < cap
  nodup : (keys s.ents).Nodup
  bound : s.ents.length ≤ cap
  dl0 : ∀ e ∈ s.ents, e.dl = 0

def abs (s : RecState) : A := absOf s.ents

theorem inv_init {cap : Nat} (h : 0 < cap) : Inv cap (init cap) :=
  ⟨rfl, h, List.nodup_nil, Nat.zero_le _, fun _ he => nomatch he⟩

theorem inv_iff {cap : Nat} {s : RecState} : Inv cap s ↔ PlainInv cap s.cap s.ents :=
  ⟨fun h => ⟨h.cap_eq, h.cap_pos, h.nodup, h.bound, h.dl0⟩, fun h => ⟨h.cap_eq, h.cap_pos, h.nodup, h.bound, h.dl0⟩⟩

theorem prune_eq_delE (vic : Victim) {l : List Entry} (hn : (keys l).Nodup) (hl : l ≠ []) :
    ∃ w x, getE l w = some x ∧ prune vic l = delE l w := by
  cases vic with
  | oldest => exact exists_tail_eq_delE hn hl
  | newest =>
    obtain ⟨t, e, rfl⟩ : ∃ t e, l = t ++ [e] := ⟨_, _, (List.dropLast_concat_getLast hl).symm⟩
    refine ⟨e.key, e, getE_of_mem hn (by simp), ?_⟩
    simp only [prune, List.dropLast_concat]
    exact dropLast_eq_delE hn

theorem touch_perm (l : List Entry) (e : Entry) : (touch l e).Perm (e :: delE l e.key) := snoc_perm _ _

theorem refines (vic : Victim) (cap : Nat) : Refines (core vic) .plain cap (fun _ => Inv cap) abs where
  mono _ _ _ h _ := h
  pre s now h := ⟨h, AStep.pre_self (by decide)⟩
  insert1 s now k v a ttl h := by
    have hp := inv_iff.mp h
    cases hg : getE s.ents k with
    | some e =>
      simp only [core, insert1_some hg]
      obtain rfl := getE_key hg
      by_cases ha : a.upd = true
      · rw [if_pos ha]
        exact (hp.astep_ins_upd hg ha (e' := { e with val := v }) rfl rfl rfl
          (touch_perm s.ents _)).imp_left inv_iff.mpr
      · rw [if_neg ha]
        exact ⟨h, PlainInv.astep_ins_keep hg ha⟩
    | none =>
      simp only [core, insert1_none hg]
      by_cases ha : a.ins = true
      · rw [if_pos ha]
        exact (hp.astep_ins_create (e := { key := k, val := v }) hg ha rfl rfl
          (fun hf => prune_eq_delE vic h.nodup (hp.ne_nil hf)) (snoc_perm _ _)).imp_left inv_iff.mpr
      · rw [if_neg ha]
        exact ⟨h, PlainInv.astep_ins_rej hg ha⟩
  find1 s now k peek h := by
    have hp := inv_iff.mp h
    cases hg : getE s.ents k with
    | none =>
      simp only [core, find1_none hg]
      exact ⟨h, PlainInv.astep_look_miss hg⟩
    | some e =>
      simp only [core, find1_some hg]
      obtain rfl := getE_key hg
      cases peek with
      | true => exact ⟨h, PlainInv.astep_look_hit hg rfl⟩
      | false =>
        obtain ⟨h1, h2⟩ := hp.replace_same hg rfl rfl rfl (touch_perm s.ents e)
        exact ⟨inv_iff.mpr h1, PlainInv.astep_look_hit hg h2⟩
  erase1 s now k h := by
    have hp := inv_iff.mp h
    simp only [core, Rec.erase1, abs]
    cases hg : getE s.ents k with
    | none => exact ⟨h, PlainInv.astep_del_miss hg⟩
    | some e => exact ⟨inv_iff.mpr (hp.delE k), hp.astep_del_hit hg⟩
  clear s now hc h := nomatch hc
  clean s now h := ⟨h, AStep.reap_plain_self rfl⟩
  age s now h := ⟨h, rfl⟩
  updateTtl s _ t h := ⟨h, rfl⟩
  size s _ h := rfl
  capacity s _ h _ := h.cap_eq

end Rec
end Verif
