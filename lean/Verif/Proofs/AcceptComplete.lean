import Verif.Proofs.AcceptSound
/-!
# Completeness of the executable acceptor (`Verif/Accept.lean`)

The converse of `accept_soundD`: a log explained by the reference semantics in the strict sense (`ExplainsD`) is never
rejected (`accept_complete`).  Against the lax `Explains` of `accept_sound` that is false (`accept_complete_lax_false`).
Two hypotheses, each needed: every inserted key lies in the swept universe, or else the survivor-guided shortcut of
`loop` can keep a wrong candidate in place of the right one (`logOk_needed`); an unbounded container has a positive
TTL, or else the size check of `loop` on the observations fires on a legal log (`ttl_pos_needed`).

The idea: a key-sorted candidate is determined, up to the fields nothing observes, by the reference state it stands for
(`sorted_ext`), so the induction over the log goes on from whichever computed successor represents the state reached
(`succ?_complete`, `ExplainsD.congr`).
-/
namespace Verif.Accept
open Verif Verif.Proto Verif.Spec

def opKeysOk (n : Nat) : Op → Bool
  | .insert k _ _ _ => decide (k < n)
  | .insertRange xs _ => xs.all (fun x => decide (x.1 < n))
  | _ => true

/-- every inserted key is below `nkeys`, so that the sweep shows it -/
def logOk (nkeys : Nat) (evs : List Event) : Bool := evs.all (fun e => opKeysOk nkeys e.op)

/-! ## a key-sorted representation is determined by the reference state -/

/-- what the reference state and the observations see of an entry -/
def proj (e : Entry) : Key × Val × Time := (e.key, e.val, e.dl)

theorem mem_map_proj {l : List Entry} (h : Sorted l) {x : Key × Val × Time} :
    x ∈ l.map proj ↔ (absOf l).get x.1 = some x.2 := by
  rw [absOf_get]
  constructor
  · intro h1
    obtain ⟨e, he, rfl⟩ := List.mem_map.mp h1
    show (getE l e.key).map _ = _
    rw [getE_of_mem h.nodup he]; rfl
  · intro h1
    obtain ⟨e, he, hx⟩ := Option.map_eq_some_iff.mp h1
    refine List.mem_map.mpr ⟨e, getE_mem he, ?_⟩
    show (e.key, e.val, e.dl) = x
    rw [getE_key he, hx]

theorem sorted_ext {l1 l2 : List Entry} (h1 : Sorted l1) (h2 : Sorted l2) (h : (absOf l1).get = (absOf l2).get) :
    l1.map proj = l2.map proj := by
  -- the two projections are sorted by key and have the same members
  have hp : ∀ {l : List Entry}, Sorted l → (l.map proj).Pairwise (fun a b => a.1 < b.1) :=
    fun hl => List.pairwise_map.mpr hl
  have hn : ∀ {l : List Entry}, Sorted l → (l.map proj).Nodup :=
    fun hl => (hp hl).imp (fun hab heq => by rw [heq] at hab; exact Nat.lt_irrefl _ hab)
  refine List.Perm.eq_of_pairwise (fun a b _ _ hab hba => absurd hab (Nat.lt_asymm hba)) (hp h1) (hp h2) ?_
  refine (List.perm_ext_iff_of_nodup (hn h1) (hn h2)).mpr (fun x => ?_)
  rw [mem_map_proj h1, mem_map_proj h2, h]

theorem absR_eq_of_get {s t : RState} (hs : WF s) (ht : WF t) (h : (absR s).get = (absR t).get) :
    absR s = absR t := by
  apply A.ext h
  show s.ents.length = t.ents.length
  have := congrArg List.length (sorted_ext hs ht h)
  rwa [List.length_map, List.length_map] at this

def sweepP (c : Ctx) (now : Time) (x : Key × Val × Time) : Bool :=
  !(c.fl != .plain && decide (x.2.2 ≤ now)) && decide (x.1 < c.nkeys)

theorem sweepOf_eq (c : Ctx) (s : RState) (now : Time) :
    sweepOf c s now = ((s.ents.map proj).filter (sweepP c now)).map (fun x => (x.1, x.2.1)) := by
  unfold sweepOf
  rw [List.filter_map, List.map_map]
  rfl

theorem obsOk_congr (c : Ctx) {s t : RState} (h : s.ents.map proj = t.ents.map proj) (now : Time) (o : Obs) :
    obsOk c s now o = obsOk c t now o := by
  have hl : s.ents.length = t.ents.length := by
    have := congrArg List.length h
    rwa [List.length_map, List.length_map] at this
  unfold obsOk
  rw [sweepOf_eq, sweepOf_eq, h, hl]

/-- inside a call the candidate `t` follows the explaining run, which is at `a`: same map, and same size except in the
unbounded containers, whose prologue `AStep .pre` only bounds the size (nothing reads it before the call ends) -/
def Sim (c : Ctx) (t : RState) (a : A) : Prop :=
  (absR t).get = a.get ∧ (c.fl ≠ .eager → t.ents.length = a.size)

theorem Sim.refl (c : Ctx) (t : RState) : Sim c t (absR t) := ⟨rfl, fun _ => rfl⟩

theorem Sim.get {c : Ctx} {t : RState} {a : A} (h : Sim c t a) (k : Key) :
    a.get k = (getE t.ents k).map (fun e => (e.val, e.dl)) := by rw [← h.1]; rfl

theorem Sim.get_some {c : Ctx} {t : RState} {a : A} (h : Sim c t a) {k : Key} {e : Entry} (hg : getE t.ents k = some e) :
    a.get k = some (e.val, e.dl) := by rw [h.get, hg]; rfl

theorem Sim.get_none {c : Ctx} {t : RState} {a : A} (h : Sim c t a) {k : Key} (hg : getE t.ents k = none) :
    a.get k = none := by rw [h.get, hg]; rfl

theorem Sim.del {c : Ctx} {t : RState} {a a' : A} (hs : Sim c t a) (hw : WF t) {k : Key} {e : Entry}
    (hg : getE t.ents k = some e) (h2 : a'.get = a.get.del k) (h3 : a'.size + 1 = a.size) :
    Sim c { t with ents := delE t.ents k } a' := by
  refine ⟨?_, fun hne => ?_⟩
  · show (absOf (delE t.ents k)).get = _
    rw [absOf_delE, h2, ← hs.1]; rfl
  · refine Nat.add_right_cancel (m := 1) ?_
    calc (delE t.ents k).length + 1 = t.ents.length := length_delE_of_getE (Sorted.nodup hw) hg
      _ = a.size := hs.2 hne
      _ = a'.size + 1 := h3.symm

section
variable {c : Ctx} {t : RState} {a a' : A} {now : Time} {k : Key}

theorem ins1_complete {v : Val} {al : Allow} {tt : Nat} {ok : Bool} (hw : WF t) (hs : Sim c t a)
    (h : AStep c.fl c.cap a now (.ins k v al (deadline c t now tt) ok) a') :
    ∃ t', (t', ok) ∈ ins1 c t now k v al tt none ∧ Sim c t' a' := by
  cases hg : getE t.ents k with
  | some e =>
    have hget := hs.get_some hg
    by_cases hc : al.upd = true ∨ (c.fl = .lazy ∧ al.ins = true ∧ e.dl ≤ now)
    · obtain ⟨rfl, h2, h3⟩ := (AStep.ins_upd hget hc).1 h
      rw [ins1_upd hg hc]
      refine ⟨_, List.mem_singleton.mpr rfl, ?_, fun hne => ?_⟩
      · show (absOf (put t.ents _)).get = _
        rw [absOf_put, h2, ← hs.1]; rfl
      · rw [h3, ← hs.2 hne]
        exact length_put_old (Sorted.nodup hw) hg
    · obtain ⟨rfl, rfl⟩ := (AStep.ins_keep hget hc).1 h
      rw [ins1_keep hg hc]
      exact ⟨_, List.mem_singleton.mpr rfl, hs⟩
  | none =>
    have hget := hs.get_none hg
    by_cases hi : al.ins = true
    · by_cases hf : c.fl ≠ .eager ∧ c.cap ≤ t.ents.length
      · -- bounded flavor, so `hs.2 hf.1 : t.ents.length = a.size`: "full" of the candidate is "full" of the run's state
        obtain ⟨rfl, w, hw1, hw2, hw3⟩ := (AStep.ins_evict hget hi (hs.2 hf.1 ▸ hf)).1 h
        obtain ⟨vics, _, hv, heq⟩ := ins1_evict now v tt none hg hi hf
        rw [heq, hv rfl]
        rw [hs.get, Option.isSome_map] at hw1
        obtain ⟨ew, hew⟩ := Option.isSome_iff_exists.mp hw1
        have hewm := getE_mem hew
        refine ⟨_, List.mem_map.mpr ⟨ew, hewm, rfl⟩, ?_, fun _ => ?_⟩
        · show (absOf (put (delE t.ents ew.key) _)).get = _
          rw [absOf_put, absOf_delE, hw2, getE_key hew, ← hs.1]; rfl
        · rw [hw3, ← hs.2 hf.1]
          exact length_put_evict (Sorted.nodup hw) hewm hg
      · have hf' : ¬ (c.fl ≠ .eager ∧ c.cap ≤ a.size) := fun hh => hf (hs.2 hh.1 ▸ hh)
        obtain ⟨rfl, h2, h3⟩ := (AStep.ins_new hget hi hf').1 h
        rw [ins1_new hg hi hf]
        refine ⟨_, List.mem_singleton.mpr rfl, ?_, fun hne => ?_⟩
        · show (absOf (put t.ents _)).get = _
          rw [absOf_put, h2, ← hs.1]; rfl
        · rw [h3, ← hs.2 hne]
          exact length_put_new hg
    · obtain ⟨rfl, rfl⟩ := (AStep.ins_rej hget hi).1 h
      rw [ins1_rej hg hi]
      exact ⟨_, List.mem_singleton.mpr rfl, hs⟩

theorem look1_complete {peek : Bool} {r : Option (Val × Nat)} (hw : WF t) (hs : Sim c t a)
    (h : AStep c.fl c.cap a now (.look k peek r) a') :
    Sim c (look1 c t now k).1 a' ∧ (look1 c t now k).2 = r.map (·.1) := by
  cases hg : getE t.ents k with
  | some e =>
    have hget := hs.get_some hg
    by_cases hc : c.fl = .lazy ∧ e.dl ≤ now
    · obtain ⟨rfl, h2, h3⟩ := (AStep.look_exp hget hc).1 h
      rw [look1_exp hg hc]
      exact ⟨hs.del hw hg h2 h3, rfl⟩
    · obtain ⟨h1, rfl⟩ := (AStep.look_hit hget hc).1 h
      rw [look1_hit hg hc]
      exact ⟨hs, h1.symm⟩
  | none =>
    obtain ⟨rfl, rfl⟩ := (AStep.look_miss (hs.get_none hg)).1 h
    rw [look1_miss hg]
    exact ⟨hs, rfl⟩

theorem del1_complete {ok : Bool} (hw : WF t) (hs : Sim c t a) (h : AStep c.fl c.cap a now (.del k ok) a') :
    Sim c (del1 t k).1 a' ∧ (del1 t k).2 = ok := by
  cases hg : getE t.ents k with
  | some e =>
    obtain ⟨rfl, h2, h3⟩ := (AStep.del_hit (hs.get_some hg)).1 h
    rw [del1_hit hg]
    exact ⟨hs.del hw hg h2 h3, rfl⟩
  | none =>
    obtain ⟨rfl, rfl⟩ := (AStep.del_miss (hs.get_none hg)).1 h
    rw [del1_miss hg]
    exact ⟨hs, rfl⟩

theorem pre_complete (hw : WF t) (hs : Sim c t a) (h : AStep c.fl c.cap a now .pre a') :
    Sim c (pre c t now) a' := by
  by_cases he : c.fl = .eager
  · rw [pre_eager he]
    refine ⟨?_, fun hh => absurd he hh⟩
    show (absOf (t.ents.filter _)).get = _
    rw [absOf_filter_reap (Sorted.nodup hw), ((AStep.pre_eager he).1 h).1, ← hs.1]; rfl
  · rw [pre_ne he, (AStep.pre_ne he).1 h]
    exact hs

/-- the explaining run of a call on keys starts with `.pre` from the state `t` stands for -/
theorem pre_complete_run (hw : WF t) {as : List Atom}
    (h : ARun c.fl c.cap (absR t) ((Atom.pre :: as).map (fun x => (now, x))) a') :
    ∃ a1, Sim c (pre c t now) a1 ∧ ARun c.fl c.cap a1 (as.map (fun x => (now, x))) a' :=
  (ARun.cons_inv h).imp fun _ h1 => h1.imp_left (pre_complete hw (Sim.refl c t))

/-- `AStep` ties the count a reap reports to the `size` fields alone; it is the number of entries removed because the
state reached is represented by a key-sorted list too -/
theorem reap_complete {n : Nat} {s' : RState} (hw : WF t) (hw' : WF s')
    (h : AStep c.fl c.cap (absR t) now (.reap n) (absR s')) :
    (absR (reap c t now).1).get = (absR s').get ∧ (reap c t now).2 = n := by
  have h3 : AStep c.fl c.cap (absR t) now (.reap (reap c t now).2) (absR (reap c t now).1) := reap_astep hw
  by_cases hp : c.fl = .plain
  · obtain ⟨h11, h12⟩ := (AStep.reap_plain hp).1 h
    obtain ⟨h31, h32⟩ := (AStep.reap_plain hp).1 h3
    exact ⟨by rw [h32, h12], by rw [h31, h11]⟩
  · obtain ⟨h11, h12⟩ := (AStep.reap_ne hp).1 h
    obtain ⟨h31, h32⟩ := (AStep.reap_ne hp).1 h3
    have hget : (absR (reap c t now).1).get = (absR s').get := by rw [h31, h11]
    have hsz : (absR (reap c t now).1).size = (absR s').size :=
      congrArg A.size (absR_eq_of_get ((reap_sub c t now).wf hw) hw' hget)
    refine ⟨hget, Nat.add_left_cancel (n := (absR s').size) ?_⟩
    calc (absR s').size + (reap c t now).2 = (absR (reap c t now).1).size + (reap c t now).2 := by rw [hsz]
      _ = (absR t).size := h32
      _ = (absR s').size + n := h12.symm
end

theorem lookMany_complete {c : Ctx} {now : Time} {peek : Bool} {ks : List Key} {as : List Atom}
    {rs : List (Option Val)} (hl : LookAtoms peek ks as rs) :
    ∀ {t : RState} {a a' : A}, WF t → Sim c t a →
    ARun c.fl c.cap a (as.map (fun x => (now, x))) a' →
    Sim c (lookMany c now ks t).1 a' ∧ (lookMany c now ks t).2 = rs := by
  induction hl with
  | nil =>
    intro t a a' _ hs hr
    rw [ARun.nil_inv hr]
    exact ⟨hs, rfl⟩
  | @cons k r ks as rs _ ih =>
    intro t a a' hw hs hr
    obtain ⟨a1, h1, h2⟩ := ARun.cons_inv hr
    obtain ⟨hs1, ho1⟩ := look1_complete hw hs h1
    obtain ⟨hs2, ho2⟩ := ih ((look1_sub c t now k).wf hw) hs1 h2
    refine ⟨hs2, ?_⟩
    show (look1 c t now k).2 :: _ = _
    rw [ho1, ho2]

theorem delMany_complete {c : Ctx} {now : Time} {ks : List Key} {as : List Atom} {n : Nat} (hl : DelAtoms ks as n) :
    ∀ {t : RState} {a a' : A}, WF t → Sim c t a →
    ARun c.fl c.cap a (as.map (fun x => (now, x))) a' →
    Sim c (delMany ks t).1 a' ∧ (delMany ks t).2 = n := by
  induction hl with
  | nil =>
    intro t a a' _ hs hr
    rw [ARun.nil_inv hr]
    exact ⟨hs, rfl⟩
  | @cons k ok ks as n _ ih =>
    intro t a a' hw hs hr
    obtain ⟨a1, h1, h2⟩ := ARun.cons_inv hr
    obtain ⟨hs1, ho1⟩ := del1_complete hw hs h1
    obtain ⟨hs2, ho2⟩ := ih ((del1_sub t k).wf hw) hs1 h2
    refine ⟨hs2, ?_⟩
    show (if (del1 t k).2 then 1 else 0) + _ = _
    rw [ho1, ho2]

theorem InsChain.complete {c : Ctx} {now : Time} {al : Allow} (s0 : RState)
    {xs : List (Key × Val × Nat)} {as : List Atom} {m : Nat} (hl : InsAtomsD al (deadline c s0 now) xs as m) :
    ∀ {t : RState} (n : Nat) {a a' : A}, WF t → t.ttl = s0.ttl → Sim c t a →
    ARun c.fl c.cap a (as.map (fun x => (now, x))) a' →
    ∃ t', InsChain c now al none xs (t, n) (t', n + m) ∧ Sim c t' a' := by
  induction hl with
  | nil =>
    intro t n a a' _ _ hs hr
    rw [ARun.nil_inv hr]
    exact ⟨t, .nil _, hs⟩
  | @cons k v tt ok xs as m _ ih =>
    intro t n a a' hw httl hs hr
    obtain ⟨a1, h1, h2⟩ := ARun.cons_inv hr
    rw [← deadline_congr c httl] at h1
    obtain ⟨t1, hin, hs1⟩ := ins1_complete hw hs h1
    obtain ⟨hw1, httl1, _⟩ := ins1_step hw hin
    obtain ⟨t', hch, hs'⟩ := ih (n + (if ok then 1 else 0)) hw1 (httl1.trans httl) hs1 h2
    rw [Nat.add_assoc] at hch
    exact ⟨t', .cons hin hch, hs'⟩

theorem ttlAfter_congr (c : Ctx) {s t : RState} (h : t.ttl = s.ttl) (op : Op) : ttlAfter c t op = ttlAfter c s op := by
  unfold ttlAfter; rw [h]

theorem ExplainedD.congr {c : Ctx} {s t s' : RState} {now : Time} {op : Op} {x : XOut}
    (hrep : absR t = absR s) (httl : t.ttl = s.ttl) (h : ExplainedD c s now op s' x) : ExplainedD c t now op s' x := by
  obtain ⟨hw, ht, atoms, hat, hrun⟩ := h
  refine ⟨hw, by rw [ht, ttlAfter_congr c httl], atoms, ?_, ?_⟩
  · rw [deadline_congr c httl]; exact hat
  · rw [hrep]; exact hrun

theorem ExplainsD.congr {c : Ctx} {s t : RState} {evs : List Event}
    (hrep : absR t = absR s) (httl : t.ttl = s.ttl) (h : ExplainsD c s evs) : ExplainsD c t evs := by
  cases h with
  | nil => exact .nil t
  | cons h1 h2 h3 h4 => exact .cons (h1.congr hrep httl) h2 h3 h4

/-- `t'` represents `s'`.  It exists whether or not `succ?` computes a list (a long range insert may hit the candidate
limit), key-sorted and with the provenance of a successor: the guided path of `loop` is compared with it. -/
theorem succ?_complete (c : Ctx) (t s' : RState) (now : Time) (op : Op) (x : XOut)
    (hwt : WF t) (hex : ExplainedD c t now op s' x) :
    ∃ t', WF t' ∧ absR t' = absR s' ∧ t'.ttl = s'.ttl ∧ Prov c t now op t' ∧
      ∀ l, succ? c t now none op = some l → (t', x) ∈ l := by
  obtain ⟨hws', httl', atoms, hat, hrun⟩ := hex
  -- a computed successor with the right `get` will do: the rest is `succ?_step`
  have key : ∀ l0, succ? c t now none op = some l0 → ∀ t', (t', x) ∈ l0 → (absR t').get = (absR s').get →
      ∃ t', WF t' ∧ absR t' = absR s' ∧ t'.ttl = s'.ttl ∧ Prov c t now op t' ∧
        ∀ l, succ? c t now none op = some l → (t', x) ∈ l := by
    intro l0 hl0 t' hm hg
    obtain ⟨⟨hw', ht', _⟩, hprov⟩ := succ?_step hwt hl0 hm
    exact ⟨t', hw', absR_eq_of_get hw' hws' hg, by rw [ht', httl'], hprov,
      fun l hl => by cases hl0.symm.trans hl; exact hm⟩
  have hps := pre_sub c t now
  have hpw := hps.wf hwt
  cases hat with
  | @insert k v a tt ok =>
    obtain ⟨_, hs1, hr2⟩ := pre_complete_run hwt hrun
    have h2 := ARun.single_inv hr2
    rw [← deadline_congr c hps.1] at h2
    obtain ⟨t', hin, hs2⟩ := ins1_complete hpw hs1 h2
    exact key _ rfl t' (List.mem_map.mpr ⟨(t', ok), hin, rfl⟩) hs2.1
  | @insertRange xs a as n hins =>
    -- the one case that does not go through `key`: `succ?` may return `none` here, and `t'` has to exist all the same
    obtain ⟨_, hs1, hr2⟩ := pre_complete_run hwt hrun
    obtain ⟨t', hch, hs2⟩ := InsChain.complete t hins 0 hpw hps.1 hs1 hr2
    obtain ⟨hw', ht', _, hents⟩ := hch.step t hpw hps.1
    refine ⟨t', hw', absR_eq_of_get hw' hws' hs2.1, by rw [ht', httl']; rfl, .of_pre hents, fun l hl => ?_⟩
    simp only [succ?, Option.map_eq_some_iff] at hl
    obtain ⟨r, hr, rfl⟩ := hl
    exact List.mem_map.mpr ⟨(t', 0 + n), (mem_insMany hr).mpr ⟨_, List.mem_singleton.mpr rfl, hch⟩, by rw [Nat.zero_add]⟩
  | @find k peek r | @findCount k peek r =>
    obtain ⟨_, hs1, hr2⟩ := pre_complete_run hwt hrun
    obtain ⟨hs2, ho⟩ := look1_complete hpw hs1 (ARun.single_inv hr2)
    exact key _ rfl _ (List.mem_singleton.mpr (by rw [← ho])) hs2.1
  | @findRange ks peek as rs hla =>
    obtain ⟨_, hs1, hr2⟩ := pre_complete_run hwt hrun
    obtain ⟨hs2, ho⟩ := lookMany_complete hla hpw hs1 hr2
    exact key _ rfl _ (List.mem_singleton.mpr (by rw [← ho])) hs2.1
  | @erase k ok =>
    obtain ⟨_, hs1, hr2⟩ := pre_complete_run hwt hrun
    obtain ⟨hs2, ho⟩ := del1_complete hpw hs1 (ARun.single_inv hr2)
    exact key _ rfl _ (List.mem_singleton.mpr (by rw [← ho])) hs2.1
  | @eraseRange ks as n hda =>
    obtain ⟨_, hs1, hr2⟩ := pre_complete_run hwt hrun
    obtain ⟨hs2, ho⟩ := delMany_complete hda hpw hs1 hr2
    exact key _ rfl _ (List.mem_singleton.mpr (by rw [← ho])) hs2.1
  | clear hc =>
    refine key _ rfl { t with ents := [] } ?_ (by rw [(ARun.single_inv hrun).1]; rfl)
    show _ ∈ if hasClear c = true then _ else _
    rw [if_pos hc]
    exact List.mem_singleton.mpr rfl
  | noClear hc =>
    refine key _ rfl t ?_ (by rw [ARun.nil_inv hrun])
    show _ ∈ if hasClear c = true then _ else _
    rw [if_neg (by rw [hc]; decide)]
    exact List.mem_singleton.mpr rfl
  | @clean n =>
    obtain ⟨hg, hn⟩ := reap_complete hwt hws' (ARun.single_inv hrun)
    exact key _ rfl _ (List.mem_singleton.mpr (by rw [hn])) hg
  | @age n =>
    have h1 : absR s' = absR t := ARun.single_inv hrun
    exact key _ rfl t (List.mem_singleton.mpr rfl) (by rw [h1])
  | @updateTtl tt =>
    have h1 : absR s' = absR t := ARun.single_inv hrun
    refine key _ rfl _ (List.mem_singleton.mpr rfl) ?_
    rw [h1]; split <;> rfl
  | @size n =>
    have h1 : n = (absR t).size ∧ absR s' = absR t := ARun.single_inv hrun
    exact key _ rfl t (List.mem_singleton.mpr (by rw [h1.1]; rfl)) (by rw [h1.2])
  | @empty b =>
    have h1 : b = ((absR t).size == 0) ∧ absR s' = absR t := ARun.single_inv hrun
    exact key _ rfl t (List.mem_singleton.mpr (by rw [h1.1]; rfl)) (by rw [h1.2])
  | @capacity n hn =>
    have h1 : (c.fl ≠ .eager → n = c.cap) ∧ absR s' = absR t := ARun.single_inv hrun
    have hcap : (if c.fl == .eager then 0 else c.cap) = n := by
      by_cases he : c.fl = .eager
      · rw [hn he, if_pos (beq_iff_eq.mpr he)]
      · rw [h1.1 he, if_neg (mt beq_iff_eq.mp he)]
    exact key _ rfl t (List.mem_singleton.mpr (by rw [hcap])) (by rw [h1.2])

/-- what every candidate the acceptor builds satisfies: key-sorted, all keys in the swept universe, entries
built canonically (no deadline in the plain flavor), the configured TTL constant except in utlru -/
structure Good (c : Ctx) (ttl0 : Nat) (t : RState) : Prop where
  wf : WF t
  ents : ∀ e ∈ t.ents, e.key < c.nkeys ∧ e.cnt = 0 ∧ e.stamp = 0 ∧ e.slot = 0 ∧ (c.fl = .plain → e.dl = 0)
  ttl : c.kind ≠ .utlru → t.ttl = ttl0

theorem deadline_of_fl (c : Ctx) (hfl : c.fl = flavorOf c.kind) (s : RState) (now : Time) (tt : Nat) :
    (c.fl = .plain → deadline c s now tt = 0) ∧ (c.fl = .eager → deadline c s now tt = now + s.ttl) := by
  rw [hfl]
  unfold deadline
  cases c.kind with
  | tlru | utlru => exact ⟨nofun, nofun⟩
  | utmap | utset => exact ⟨nofun, fun _ => rfl⟩
  | _ => exact ⟨fun _ => rfl, nofun⟩

theorem kind_ne_utlru (c : Ctx) (hfl : c.fl = flavorOf c.kind) (hp : c.fl ≠ .lazy) : c.kind ≠ .utlru := by
  intro hk
  apply hp
  rw [hfl, hk]; rfl

theorem insKeys_lt {n : Nat} {op : Op} (h : opKeysOk n op = true) {k : Key} (hk : k ∈ insKeys op) : k < n := by
  unfold insKeys at hk
  split at hk
  · cases List.mem_singleton.mp hk
    exact of_decide_eq_true h
  · obtain ⟨x, hx, rfl⟩ := List.mem_map.mp hk
    exact of_decide_eq_true (List.all_eq_true.mp h x hx)
  · cases hk

theorem ttlAfter_eq (c : Ctx) (s : RState) (op : Op) (hk : c.kind ≠ .utlru) : ttlAfter c s op = s.ttl := by
  unfold ttlAfter
  split
  · exact if_neg fun h => hk (eq_of_beq h)
  · rfl

theorem good_of_prov {c : Ctx} (hfl : c.fl = flavorOf c.kind) {ttl0 : Nat} {s s' : RState} {now : Time} {op : Op}
    (hg : Good c ttl0 s) (hw' : WF s') (httl : s'.ttl = ttlAfter c s op) (hents : Prov c s now op s')
    (hok : opKeysOk c.nkeys op = true) : Good c ttl0 s' := by
  refine ⟨hw', fun e he => ?_, fun hk => ?_⟩
  · rcases hents e he with h1 | ⟨k, v, tt, hk, rfl⟩
    · exact hg.ents e h1.1
    · exact ⟨insKeys_lt hok hk, rfl, rfl, rfl, (deadline_of_fl c hfl s now tt).1⟩
  · rw [httl, ttlAfter_eq c s op hk]
    exact hg.ttl hk

theorem live_of_prov {c : Ctx} (hfl : c.fl = flavorOf c.kind) {s s' : RState} {now : Time} {op : Op}
    (he : c.fl = .eager) (hp : purges op = true) (hpos : 0 < s.ttl) (hents : Prov c s now op s') :
    ∀ e ∈ s'.ents, now < e.dl := by
  intro e hm
  rcases hents e hm with h1 | ⟨k, v, tt, hk, rfl⟩
  · exact h1.2 he hp
  · show now < deadline c s now tt
    rw [(deadline_of_fl c hfl s now tt).2 he]
    exact Nat.lt_add_of_pos_right hpos

theorem obsOk_iff {c : Ctx} {s : RState} {now : Time} {o : Obs} :
    obsOk c s now o = true ↔ s.ents.length = o.size ∧ (s.ents.length == 0) = o.empty ∧
      (if c.fl == .eager then 0 else c.cap) = o.cap ∧ sweepOf c s now = o.sweep.map (fun (k, v, _) => (k, v)) := by
  unfold obsOk
  simp only [Bool.and_eq_true, beq_iff_eq, and_assoc]

theorem obsOk_sweep {c : Ctx} {s : RState} {now : Time} {o : Obs} (h : obsOk c s now o = true) :
    sweepOf c s now = o.sweep.map (fun (k, v, _) => (k, v)) := (obsOk_iff.mp h).2.2.2

theorem sweepOf_all (c : Ctx) (q : RState) (now : Time) (hk : ∀ e ∈ q.ents, e.key < c.nkeys)
    (hlive : ∀ e ∈ q.ents, c.fl = .plain ∨ now < e.dl) :
    sweepOf c q now = q.ents.map (fun e => (e.key, e.val)) := by
  unfold sweepOf
  rw [List.filter_eq_self.mpr]
  intro e he
  rcases hlive e he with hp | hl
  · simp [expired, hp, hk e he]
  · have : ¬ e.dl ≤ now := Nat.not_le.mpr hl
    simp [expired, this, hk e he]

/-- the entries carry nothing but key and value, and the sweep shows every one of them -/
theorem Good.ents_of_sweep {c : Ctx} {ttl0 : Nat} {q : RState} (hq : Good c ttl0 q) (hp : c.fl = .plain) (now : Time) :
    q.ents = (sweepOf c q now).map (fun p => { key := p.1, val := p.2 }) := by
  rw [sweepOf_all c q now (fun e he => (hq.ents e he).1) (fun _ _ => Or.inl hp), List.map_map]
  refine (List.map_id' q.ents).symm.trans (List.map_congr_left (fun e he => ?_))
  obtain ⟨_, h1, h2, h3, h4⟩ := hq.ents e he
  have h4 := h4 hp
  cases e
  cases h1; cases h2; cases h3; cases h4
  rfl

/-- plain flavor: the observations determine the candidate, so the survivor-guided shortcut of `loop` cannot keep a
wrong one in place of the right one -/
theorem plain_det (c : Ctx) (hfl : c.fl = flavorOf c.kind) (ttl0 : Nat) (q t : RState) (now : Time) (o : Obs)
    (hp : c.fl = .plain) (hq : Good c ttl0 q) (ht : Good c ttl0 t)
    (hoq : obsOk c q now o = true) (hot : obsOk c t now o = true) : q = t := by
  have hk : c.kind ≠ .utlru := kind_ne_utlru c hfl (by rw [hp]; decide)
  have h4 : q.ents = t.ents := by
    rw [hq.ents_of_sweep hp now, ht.ents_of_sweep hp now, obsOk_sweep hoq, obsOk_sweep hot]
  have h5 : q.ttl = t.ttl := by rw [hq.ttl hk, ht.ttl hk]
  cases q; cases t
  simp only [RState.mk.injEq]
  exact ⟨h4, h5⟩

/-- unbounded containers: right after a call that purges, `size()` is the number of keys the sweep shows -/
theorem eager_size_live {c : Ctx} {t : RState} {now : Time} {o : Obs} (hk : ∀ e ∈ t.ents, e.key < c.nkeys)
    (hlive : ∀ e ∈ t.ents, now < e.dl) (hobs : obsOk c t now o = true) : o.size = o.sweep.length := by
  have h1 := sweepOf_all c t now hk (fun e he => Or.inr (hlive e he))
  have h2 := congrArg List.length (obsOk_sweep hobs)
  rw [h1] at h2
  simp only [List.length_map] at h2
  rw [← (obsOk_iff.mp hobs).1, h2]

theorem loop_complete (c : Ctx) (hfl : c.fl = flavorOf c.kind) (ttl0 : Nat) (hpos : c.fl = .eager → 0 < ttl0)
    {evs : List Event} {cs : List RState} {idx mx : Nat} {s : RState} (hgood : ∀ q ∈ cs, Good c ttl0 q)
    (hsm : s ∈ cs) (hex : ExplainsD c s evs) (hlog : logOk c.nkeys evs = true) :
    ∀ f m, loop c cs idx evs mx ≠ (some f, m) := by
  induction evs generalizing cs idx mx s with
  | nil =>
    intro f m h
    -- by definition `loop c cs idx [] mx = (none, mx)`
    cases h
  | cons e es ih =>
    intro f m h
    cases hex with
    | @cons _ s' x _ _ h1 h2 h3 h4 =>
    simp only [logOk, List.all_cons, Bool.and_eq_true] at hlog
    obtain ⟨hok, hlog'⟩ := hlog
    have hgs := hgood s hsm
    -- the candidate that represents the state the call reaches: the rest of the log is explained from it too
    obtain ⟨t', hw', hab', httl', hprov, hmem⟩ := succ?_complete c s s' e.now e.op x hgs.wf h1
    have hgt' : Good c ttl0 t' := good_of_prov hfl hgs hw' (by rw [httl', h1.2.1]) hprov hok
    have hobs' : obsOk c t' e.now e.obs = true := by
      rw [obsOk_congr c (sorted_ext hgt'.wf h1.1 (congrArg A.get hab'))]; exact h3
    rcases loop_cons_cases h with ⟨hc, _⟩ | ⟨_, ⟨_, hr⟩ | ⟨surv, css, hcss, hsurv, hnext⟩⟩
    · simp only [Bool.and_eq_true, beq_iff_eq, bne_iff_ne] at hc
      obtain ⟨⟨he, hp⟩, hne⟩ := hc
      have hk : c.kind ≠ .utlru := kind_ne_utlru c hfl (by rw [he]; decide)
      have htpos : 0 < s.ttl := by rw [hgs.ttl hk]; exact hpos he
      exact hne (eager_size_live (fun q hq => (hgt'.ents q hq).1) (live_of_prov hfl he hp htpos hprov) hobs')
    · cases hr
    · have hkeep : ∀ q ∈ keepOf c e css, Good c ttl0 q ∧ obsOk c q e.now e.obs = true := by
        intro q hq
        obtain ⟨s, hs, l, x, hsucc, hin, _, hobs⟩ := (mem_keepOf hcss).mp hq
        obtain ⟨hexq, hprovq⟩ := succ?_step (hgood s hs).wf hsucc hin
        exact ⟨good_of_prov hfl (hgood s hs) hexq.1 hexq.2.1 hprovq hok, hobs⟩
      -- whichever way the candidates were computed, `t'` is among those kept
      have ht' : t' ∈ keepOf c e css := by
        rcases hsurv with rfl | ⟨hp, hne⟩
        · obtain ⟨l, _, hl⟩ := (mapM_option_some hcss).1 s hsm
          exact (mem_keepOf hcss).mpr ⟨s, hsm, l, x, hl, hmem l hl, h2, hobs'⟩
        · -- a survivors hint was followed: in the plain flavor what it kept can only be `t'`
          obtain ⟨q, hqm⟩ := List.exists_mem_of_ne_nil _ hne
          rw [← plain_det c hfl ttl0 q t' e.now e.obs hp (hkeep q hqm).1 hgt' (hkeep q hqm).2 hobs']
          exact hqm
      rcases hnext with ⟨hnil, _⟩ | ⟨_, hr⟩ | ⟨_, idx', mx', hl⟩
      · rw [hnil] at ht'; cases ht'
      · cases hr
      · exact ih (fun q hq => (hkeep q hq).1) ht' (h4.congr hab' httl') hlog' f m hl

/-- A log that is explained in the strict sense from the empty container is never rejected: the acceptor accepts it or
gives up (`m > candLimit`).  Both side conditions are needed (`logOk_needed`, `ttl_pos_needed`), and so is the strict
notion (`accept_complete_lax_false`). -/
theorem accept_complete (cfg : Cfg) (nkeys : Nat) (evs : List Event)
    (hex : ExplainsD { kind := cfg.kind, fl := flavorOf cfg.kind, cap := cfg.cap, nkeys := nkeys }
      { ents := [], ttl := cfg.ttl * msNs } evs)
    (hwf : logOk nkeys evs = true)
    (httl : flavorOf cfg.kind = .eager → 0 < cfg.ttl) :
    ∀ f m, accept cfg nkeys evs = (some f, m) → False := by
  intro f m h
  unfold accept at h
  refine loop_complete { kind := cfg.kind, fl := flavorOf cfg.kind, cap := cfg.cap, nkeys := nkeys } rfl
    (cfg.ttl * msNs) (fun he => ?_) ?_ (List.mem_singleton.mpr rfl) hex hwf f m h
  · exact Nat.mul_pos (httl he) (by decide)
  · intro q hq
    rw [List.mem_singleton.mp hq]
    exact ⟨List.Pairwise.nil, fun e he => (by cases he), fun _ => rfl⟩

/-! ## witnesses: the hypotheses can be met, and each is needed -/

/-- a step taken from the acceptor's own successor function, which also gives `WF s'` for the next step -/
theorem ExplainsD.step {c : Ctx} {s s' : RState} {x : XOut} {e : Event} {es : List Event}
    {l : List (RState × XOut)} (hw : WF s) (hl : succ? c s e.now none e.op = some l) (hm : (s', x) ∈ l)
    (ho : outOk x e.out = true) (hobs : obsOk c s' e.now e.obs = true) (hr : WF s' → ExplainsD c s' es) :
    ExplainsD c s (e :: es) :=
  have h := (succ?_step hw hl hm).1
  .cons h ho hobs (hr h.1)

/-- an event with consistent observers -/
def mkEv (now : Nat) (op : Op) (out : Out) (size : Nat) (cap : Nat) (sw : List (Key × Val × Nat)) : Event :=
  { inst := 0, now := now, tag := "@", op := op, out := out,
    obs := { size := size, empty := size == 0, cap := cap, sweep := sw } }

/-- tlru, capacity 2, keys 0..3: two inserts, an evicting insert whose victim is key 0, a lookup that
finds an expired entry (deadline 5 ms, clock 6 ms) and removes it, a miss -/
def logT : List Event :=
  [mkEv 0 (.insert 0 1 .insertOrUpdate 5) (.bool true) 1 2 [(0, 1, 0)],
   mkEv 0 (.insert 1 1 .insertOrUpdate 9) (.bool true) 2 2 [(0, 1, 0), (1, 1, 0)],
   mkEv 1000000 (.insert 2 7 .insert 4) (.bool true) 2 2 [(1, 1, 0), (2, 7, 0)],
   mkEv 6000000 (.find 2 false) (.opt none) 1 2 [(1, 1, 0)],
   mkEv 6000000 (.find 0 true) (.opt none) 1 2 [(1, 1, 0)]]

/-- the hypotheses of `accept_complete` hold of a concrete log (the explanation is built step by step, not
obtained from the acceptor's verdict) -/
example : ExplainsD { kind := .tlru, fl := flavorOf .tlru, cap := 2, nkeys := 4 } { ents := [], ttl := 0 * msNs } logT ∧
    logOk 4 logT = true ∧ (flavorOf .tlru = .eager → 0 < 0) := by
  refine ⟨?_, rfl, fun h => by cases h⟩
  refine ExplainsD.step (s' := { ents := [{ key := 0, val := 1, dl := 5000000 }], ttl := 0 })
    (x := some (.bool true)) List.Pairwise.nil rfl (by decide) rfl rfl (fun hw => ?_)
  refine ExplainsD.step (s' := { ents := [{ key := 0, val := 1, dl := 5000000 }, { key := 1, val := 1, dl := 9000000 }], ttl := 0 })
    (x := some (.bool true)) hw rfl (by decide) rfl rfl (fun hw => ?_)
  refine ExplainsD.step (s' := { ents := [{ key := 1, val := 1, dl := 9000000 }, { key := 2, val := 7, dl := 5000000 }], ttl := 0 })
    (x := some (.bool true)) hw rfl (by decide) rfl rfl (fun hw => ?_)
  refine ExplainsD.step (s' := { ents := [{ key := 1, val := 1, dl := 9000000 }], ttl := 0 })
    (x := some (.opt none)) hw rfl (by decide) rfl rfl (fun hw => ?_)
  refine ExplainsD.step (s' := { ents := [{ key := 1, val := 1, dl := 9000000 }], ttl := 0 })
    (x := some (.opt none)) hw rfl (by decide) rfl rfl (fun _ => .nil _)

example : accept { kind := .tlru, cap := 2 } 4 logT = (none, 1) := by rfl

/-- `Explains` lets `clear()` clear a container that has no `clear()` (both `OpAtoms.clear` and `OpAtoms.noClear` are
offered whatever the kind); the acceptor does not -/
def logL : List Event :=
  [mkEv 0 (.insert 1 10 .insertOrUpdate 0) (.bool true) 1 2 [(1, 10, 0)],
   mkEv 0 .clear .unit 0 2 []]

theorem logL_explained_lax :
    Explains { kind := .lru, fl := flavorOf .lru, cap := 2, nkeys := 4 } { ents := [], ttl := 0 * msNs } logL := by
  refine .cons (s' := { ents := [{ key := 1, val := 10 }], ttl := 0 }) (x := some (.bool true))
    (succ?_sound { kind := .lru, fl := flavorOf .lru, cap := 2, nkeys := 4 } { ents := [], ttl := 0 * msNs } 0 none
      (.insert 1 10 .insertOrUpdate 0) (show WF _ from List.Pairwise.nil) _ rfl _ _ (by decide)).2 rfl rfl ?_
  refine .cons (s' := { ents := [], ttl := 0 }) (x := some .unit) ⟨[.clear], .clear, ARun.single ?_⟩ rfl rfl (.nil _)
  simp only [AStep]
  exact ⟨rfl, rfl⟩

/-- the strict notion is needed: `accept_complete` with the lax `Explains` as hypothesis, all its side conditions
kept, is false -/
theorem accept_complete_lax_false :
    ¬ (∀ (cfg : Cfg) (nkeys : Nat) (evs : List Event),
        Explains { kind := cfg.kind, fl := flavorOf cfg.kind, cap := cfg.cap, nkeys := nkeys }
          { ents := [], ttl := cfg.ttl * msNs } evs →
        logOk nkeys evs = true → (flavorOf cfg.kind = .eager → 0 < cfg.ttl) →
        ∀ f m, accept cfg nkeys evs = (some f, m) → False) := by
  intro h
  have hrej : (accept { kind := .lru, cap := 2 } 4 logL).1.isSome = true := rfl
  cases hacc : accept { kind := .lru, cap := 2 } 4 logL with
  | mk o m =>
    rw [hacc] at hrej
    cases o with
    | none => cases hrej
    | some f => exact h { kind := .lru, cap := 2 } 4 logL logL_explained_lax rfl (fun he => by cases he) f m hacc

/-- lru, capacity 2, swept keys 0..1.  Keys 5 and 6 are resident and invisible to the sweep.  A range insert
of key 7 evicts 6 (legal: any victim is).  The survivors (none visible) guide the acceptor to the first
resident, 5; the resulting candidate `{6,7}` matches everything observed, so the fallback that tries
every victim is not run and the true state `{5,7}` is lost.  The next lookup of 5 hits, and is rejected.
(The same log with a single-key `insert 7` is accepted: single inserts always try every victim.) -/
def logH : List Event :=
  [mkEv 0 (.insert 5 50 .insertOrUpdate 0) (.bool true) 1 2 [],
   mkEv 0 (.insert 6 60 .insertOrUpdate 0) (.bool true) 2 2 [],
   mkEv 0 (.insertRange [(7, 70, 0)] .insertOrUpdate) (.nat 1) 2 2 [],
   mkEv 0 (.find 5 true) (.opt (some 50)) 2 2 []]

/-- `logOk` is needed: a strictly explained log that the acceptor rejects -/
theorem logOk_needed :
    ExplainsD { kind := .lru, fl := flavorOf .lru, cap := 2, nkeys := 2 } { ents := [], ttl := 0 * msNs } logH ∧
    logOk 2 logH = false ∧ (accept { kind := .lru, cap := 2 } 2 logH).1.isSome = true := by
  refine ⟨?_, rfl, rfl⟩
  refine ExplainsD.step (s' := { ents := [{ key := 5, val := 50 }], ttl := 0 })
    (x := some (.bool true)) List.Pairwise.nil rfl (by decide) rfl rfl (fun hw => ?_)
  refine ExplainsD.step (s' := { ents := [{ key := 5, val := 50 }, { key := 6, val := 60 }], ttl := 0 })
    (x := some (.bool true)) hw rfl (by decide) rfl rfl (fun hw => ?_)
  refine ExplainsD.step (s' := { ents := [{ key := 5, val := 50 }, { key := 7, val := 70 }], ttl := 0 })
    (x := some (.nat 1)) hw rfl (by decide) rfl rfl (fun hw => ?_)
  refine ExplainsD.step (s' := { ents := [{ key := 5, val := 50 }, { key := 7, val := 70 }], ttl := 0 })
    (x := some (.opt (some 50))) hw rfl (by decide) rfl rfl (fun _ => .nil _)

/-- ut_map with TTL 0: the insert leaves an entry that is resident (`size() = 1`) and already expired (the sweep shows
nothing), which the reference semantics allows and the size check of `loop` rejects -/
def logZ : List Event :=
  [mkEv 5 (.insert 1 10 .insertOrUpdate 0) (.bool true) 1 0 []]

/-- a positive TTL is needed for the unbounded containers -/
theorem ttl_pos_needed :
    ExplainsD { kind := .utmap, fl := flavorOf .utmap, cap := 0, nkeys := 4 } { ents := [], ttl := 0 * msNs } logZ ∧
    logOk 4 logZ = true ∧ (accept { kind := .utmap, cap := 0, ttl := 0 } 4 logZ).1.isSome = true := by
  refine ⟨?_, rfl, rfl⟩
  refine ExplainsD.step (s' := { ents := [{ key := 1, val := 10, dl := 5 }], ttl := 0 })
    (x := some (.bool true)) List.Pairwise.nil rfl (by decide) rfl rfl (fun _ => .nil _)

end Verif.Accept

#print axioms Verif.Accept.accept_soundD
#print axioms Verif.Accept.accept_complete_lax_false
#print axioms Verif.Accept.logOk_needed
#print axioms Verif.Accept.ttl_pos_needed
#print axioms Verif.Accept.accept_complete
