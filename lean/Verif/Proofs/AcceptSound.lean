import Verif.Proofs.AcceptLemmas
import Verif.Spec.AStepLemmas
/-!
# Soundness of the executable acceptor (`Verif/Accept.lean`)

The acceptor compares the implementation's event log with the reference semantics `AStep` directly (not through an
L1 model).  Its verdict: `(none, m)` with `m ≤ candLimit` = accepted, `(none, m)` with `m > candLimit` = gave up,
`(some f, _)` = rejected.  Sound: an accepted log has a chain of reference states explaining every event's output,
observers and sweep, so it is never a missed violation of the reference semantics.

Two notions of "explained".  `Explains` says no more than "a run of `AStep`" and leaves open what the acceptor fixes
(the deadline of an insert atom, which containers have `clear`, the capacity an unbounded container reports, the
configured TTL, key order); `ExplainsD` fixes it and is what the acceptor decides (`AcceptComplete.lean`).  Everything
is proved once, for `ExplainsD` and together with where the entries of a successor come from (`succ?_step :
ExplainedD ∧ Prov`; completeness needs that of the candidates); the lax statements are projections.
-/
namespace Verif.Accept
open Verif Verif.Proto Verif.Spec

/-- the reference state a candidate stands for; by definition `absOf s.ents`, so what `ListLemmas.lean` says of
`absOf` applies as it stands -/
def absR (s : RState) : A :=
  ⟨fun k => (getE s.ents k).map (fun e => (e.val, e.dl)), s.ents.length⟩

/-- candidates are kept sorted by key, without duplicates -/
def WF (s : RState) : Prop := s.ents.Pairwise (fun a b => a.key < b.key)

inductive InsAtoms (a : Allow) : List (Key × Val × Nat) → List Atom → Nat → Prop
  | nil : InsAtoms a [] [] 0
  | cons {k v t d ok xs as n} : InsAtoms a xs as n →
      InsAtoms a ((k, v, t) :: xs) (.ins k v a d ok :: as) ((if ok then 1 else 0) + n)

inductive LookAtoms (peek : Bool) : List Key → List Atom → List (Option Val) → Prop
  | nil : LookAtoms peek [] [] []
  | cons {k r ks as rs} : LookAtoms peek ks as rs →
      LookAtoms peek (k :: ks) (.look k peek r :: as) (r.map (·.1) :: rs)

inductive DelAtoms : List Key → List Atom → Nat → Prop
  | nil : DelAtoms [] [] 0
  | cons {k ok ks as n} : DelAtoms ks as n →
      DelAtoms (k :: ks) (.del k ok :: as) ((if ok then 1 else 0) + n)

/-- the atoms a public call decomposes into (the shape of `Core.stepA`) and the value-level output they
determine (`none`: left open by the reference semantics) -/
inductive OpAtoms : Op → List Atom → XOut → Prop
  | insert {k v a t d ok} : OpAtoms (.insert k v a t) [.pre, .ins k v a d ok] (some (.bool ok))
  | insertRange {xs a as n} : InsAtoms a xs as n → OpAtoms (.insertRange xs a) (.pre :: as) (some (.nat n))
  | find {k peek r} : OpAtoms (.find k peek) [.pre, .look k peek r] (some (.opt (r.map (·.1))))
  | findRange {ks peek as rs} : LookAtoms peek ks as rs → OpAtoms (.findRange ks peek) (.pre :: as) (some (.opts rs))
  | findCount {k peek r} : OpAtoms (.findCount k peek) [.pre, .look k peek r] (some (.opt (r.map (·.1))))
  | erase {k ok} : OpAtoms (.erase k) [.pre, .del k ok] (some (.bool ok))
  | eraseRange {ks as n} : DelAtoms ks as n → OpAtoms (.eraseRange ks) (.pre :: as) (some (.nat n))
  | clear : OpAtoms .clear [.clear] (some .unit)
  /-- containers without `clear()`: the call does not exist, the harness does nothing -/
  | noClear : OpAtoms .clear [] (some .unit)
  | clean {n} : OpAtoms .clean [.reap n] (some (.nat n))
  | age {n} : OpAtoms .age [.age n] none
  | updateTtl {t} : OpAtoms (.updateTtl t) [.setTtl t] (some .unit)
  | size {n} : OpAtoms .size [.obsSize n] (some (.nat n))
  | empty {b} : OpAtoms .empty [.obsEmpty b] (some (.bool b))
  | capacity {n} : OpAtoms .capacity [.obsCap n] (some (.nat n))

def Explained (c : Ctx) (s : RState) (now : Time) (op : Op) (s' : RState) (x : XOut) : Prop :=
  ∃ atoms, OpAtoms op atoms x ∧ ARun c.fl c.cap (absR s) (atoms.map (fun a => (now, a))) (absR s')

/-- a chain of reference states explaining every event: the call's atoms run from one to the next, the output
they determine is the one recorded, and so are the observers and the sweep of the state reached -/
inductive Explains (c : Ctx) : RState → List Event → Prop
  | nil (s) : Explains c s []
  | cons {s s' x e es} : Explained c s e.now e.op s' x → outOk x e.out = true → obsOk c s' e.now e.obs = true →
      Explains c s' es → Explains c s (e :: es)

inductive InsAtomsD (a : Allow) (dl : Nat → Time) : List (Key × Val × Nat) → List Atom → Nat → Prop
  | nil : InsAtomsD a dl [] [] 0
  | cons {k v t ok xs as n} : InsAtomsD a dl xs as n →
      InsAtomsD a dl ((k, v, t) :: xs) (.ins k v a (dl t) ok :: as) ((if ok then 1 else 0) + n)

def hasClear (c : Ctx) : Bool := c.kind == .utlru || c.kind == .utmap

/-- `OpAtoms` with the conventions of the containers pinned down: deadlines are computed by `dl`,
`clear` clears exactly where it exists, and an unbounded container reports capacity 0 -/
inductive OpAtomsD (c : Ctx) (dl : Nat → Time) : Op → List Atom → XOut → Prop
  | insert {k v a t ok} : OpAtomsD c dl (.insert k v a t) [.pre, .ins k v a (dl t) ok] (some (.bool ok))
  | insertRange {xs a as n} : InsAtomsD a dl xs as n → OpAtomsD c dl (.insertRange xs a) (.pre :: as) (some (.nat n))
  | find {k peek r} : OpAtomsD c dl (.find k peek) [.pre, .look k peek r] (some (.opt (r.map (·.1))))
  | findRange {ks peek as rs} : LookAtoms peek ks as rs → OpAtomsD c dl (.findRange ks peek) (.pre :: as) (some (.opts rs))
  | findCount {k peek r} : OpAtomsD c dl (.findCount k peek) [.pre, .look k peek r] (some (.opt (r.map (·.1))))
  | erase {k ok} : OpAtomsD c dl (.erase k) [.pre, .del k ok] (some (.bool ok))
  | eraseRange {ks as n} : DelAtoms ks as n → OpAtomsD c dl (.eraseRange ks) (.pre :: as) (some (.nat n))
  | clear : hasClear c = true → OpAtomsD c dl .clear [.clear] (some .unit)
  | noClear : hasClear c = false → OpAtomsD c dl .clear [] (some .unit)
  | clean {n} : OpAtomsD c dl .clean [.reap n] (some (.nat n))
  | age {n} : OpAtomsD c dl .age [.age n] none
  | updateTtl {t} : OpAtomsD c dl (.updateTtl t) [.setTtl t] (some .unit)
  | size {n} : OpAtomsD c dl .size [.obsSize n] (some (.nat n))
  | empty {b} : OpAtomsD c dl .empty [.obsEmpty b] (some (.bool b))
  | capacity {n} : (c.fl = .eager → n = 0) → OpAtomsD c dl .capacity [.obsCap n] (some (.nat n))

/-- `update_ttl` exists in utlru only -/
def ttlAfter (c : Ctx) (s : RState) : Op → Nat
  | .updateTtl t => if c.kind == .utlru then t * msNs else s.ttl
  | _ => s.ttl

/-- `Explained`, strict: deadlines as the container computes them from the clock reading, the TTL argument
and the configured TTL; the configured TTL tracked; the state reached key-sorted -/
def ExplainedD (c : Ctx) (s : RState) (now : Time) (op : Op) (s' : RState) (x : XOut) : Prop :=
  WF s' ∧ s'.ttl = ttlAfter c s op ∧
  ∃ atoms, OpAtomsD c (deadline c s now) op atoms x ∧
    ARun c.fl c.cap (absR s) (atoms.map (fun a => (now, a))) (absR s')

/-- `Explains`, strict -/
inductive ExplainsD (c : Ctx) : RState → List Event → Prop
  | nil (s) : ExplainsD c s []
  | cons {s s' x e es} : ExplainedD c s e.now e.op s' x → outOk x e.out = true → obsOk c s' e.now e.obs = true →
      ExplainsD c s' es → ExplainsD c s (e :: es)

theorem InsAtomsD.toInsAtoms {a : Allow} {dl : Nat → Time} {xs as n} (h : InsAtomsD a dl xs as n) :
    InsAtoms a xs as n := by
  induction h with
  | nil => exact .nil
  | cons _ ih => exact .cons ih

theorem OpAtomsD.toOpAtoms {c : Ctx} {dl : Nat → Time} {op as x} (h : OpAtomsD c dl op as x) :
    OpAtoms op as x := by
  cases h with
  | insert => exact .insert
  | insertRange h => exact .insertRange h.toInsAtoms
  | find => exact .find
  | findRange h => exact .findRange h
  | findCount => exact .findCount
  | erase => exact .erase
  | eraseRange h => exact .eraseRange h
  | clear => exact .clear
  | noClear => exact .noClear
  | clean => exact .clean
  | age => exact .age
  | updateTtl => exact .updateTtl
  | size => exact .size
  | empty => exact .empty
  | capacity => exact .capacity

theorem ExplainedD.toExplained {c : Ctx} {s s' : RState} {now : Time} {op : Op} {x : XOut}
    (h : ExplainedD c s now op s' x) : Explained c s now op s' x :=
  h.2.2.imp fun _ ha => ha.imp_left OpAtomsD.toOpAtoms

theorem ExplainsD.toExplains {c : Ctx} {s : RState} {evs : List Event} (h : ExplainsD c s evs) :
    Explains c s evs := by
  induction h with
  | nil s => exact .nil s
  | cons h1 h2 h3 _ ih => exact .cons h1.toExplained h2 h3 ih

/-! ## what the primitives compute, branch by branch (the branches of `AStep`) -/

/-- the acceptor's tests are those of `AStep` -/
theorem upd_iff {a : Allow} {fl : Flavor} {dl now : Time} :
    (a.upd || (fl == .lazy && a.ins && decide (dl ≤ now))) = true ↔
      (a.upd = true ∨ (fl = .lazy ∧ a.ins = true ∧ dl ≤ now)) := by
  simp only [Bool.or_eq_true, Bool.and_eq_true, beq_iff_eq, decide_eq_true_eq, and_assoc]

theorem full_iff {fl : Flavor} {cap n : Nat} :
    (fl != .eager && decide (cap ≤ n)) = true ↔ (fl ≠ .eager ∧ cap ≤ n) := by
  simp only [Bool.and_eq_true, bne_iff_ne, decide_eq_true_eq]

theorem exp_iff {fl : Flavor} {dl now : Time} :
    (fl == .lazy && decide (dl ≤ now)) = true ↔ (fl = .lazy ∧ dl ≤ now) := by
  simp only [Bool.and_eq_true, beq_iff_eq, decide_eq_true_eq]

section ins1
variable {c : Ctx} {s : RState} {now : Time} {k : Key} {v : Val} {a : Allow} {t : Nat} {surv : Option (List Key)}

theorem ins1_upd {e : Entry} (hg : getE s.ents k = some e)
    (hc : a.upd = true ∨ (c.fl = .lazy ∧ a.ins = true ∧ e.dl ≤ now)) :
    ins1 c s now k v a t surv =
      [({ s with ents := put s.ents { key := k, val := v, dl := deadline c s now t } }, true)] := by
  unfold ins1
  simp only [hg]
  exact if_pos (upd_iff.2 hc)

theorem ins1_keep {e : Entry} (hg : getE s.ents k = some e)
    (hc : ¬ (a.upd = true ∨ (c.fl = .lazy ∧ a.ins = true ∧ e.dl ≤ now))) :
    ins1 c s now k v a t surv = [(s, false)] := by
  unfold ins1
  simp only [hg]
  exact if_neg (mt upd_iff.1 hc)

theorem ins1_rej (hg : getE s.ents k = none) (hi : ¬ a.ins = true) :
    ins1 c s now k v a t surv = [(s, false)] := by
  unfold ins1
  simp only [hg]
  exact if_neg hi

theorem ins1_new (hg : getE s.ents k = none) (hi : a.ins = true) (hf : ¬ (c.fl ≠ .eager ∧ c.cap ≤ s.ents.length)) :
    ins1 c s now k v a t surv =
      [({ s with ents := put s.ents { key := k, val := v, dl := deadline c s now t } }, true)] := by
  unfold ins1
  simp only [hg]
  rw [if_pos hi, if_neg (mt full_iff.1 hf)]

/-- every resident is tried as the victim, unless the survivors hint narrows the choice -/
theorem ins1_evict (now : Time) (v : Val) (t : Nat) (surv : Option (List Key)) (hg : getE s.ents k = none)
    (hi : a.ins = true) (hf : c.fl ≠ .eager ∧ c.cap ≤ s.ents.length) :
    ∃ vics : List Entry, (∀ w ∈ vics, w ∈ s.ents) ∧ (surv = none → vics = s.ents) ∧
      ins1 c s now k v a t surv = vics.map (fun w =>
        ({ s with ents := put (delE s.ents w.key) { key := k, val := v, dl := deadline c s now t } }, true)) := by
  unfold ins1
  simp only [hg]
  rw [if_pos hi, if_pos (full_iff.2 hf)]
  refine ⟨_, ?_, ?_, rfl⟩
  · intro w hwm
    cases surv with
    | none => exact hwm
    | some sv =>
      simp only at hwm
      split at hwm
      · next w' hfind =>
        rw [List.mem_singleton.mp hwm]
        exact List.mem_of_find?_eq_some hfind
      · exact hwm
  · rintro rfl; rfl
end ins1

section look1
variable {c : Ctx} {s : RState} {now : Time} {k : Key}

theorem look1_exp {e : Entry} (hg : getE s.ents k = some e) (hc : c.fl = .lazy ∧ e.dl ≤ now) :
    look1 c s now k = ({ s with ents := delE s.ents k }, none) := by
  simp only [look1, hg]
  exact if_pos (exp_iff.2 hc)

theorem look1_hit {e : Entry} (hg : getE s.ents k = some e) (hc : ¬ (c.fl = .lazy ∧ e.dl ≤ now)) :
    look1 c s now k = (s, some e.val) := by
  simp only [look1, hg]
  exact if_neg (mt exp_iff.1 hc)

theorem look1_miss (hg : getE s.ents k = none) : look1 c s now k = (s, none) := by
  simp only [look1, hg]
end look1

theorem del1_hit {s : RState} {k : Key} {e : Entry} (hg : getE s.ents k = some e) :
    del1 s k = ({ s with ents := delE s.ents k }, true) := by
  simp only [del1, hg]

theorem del1_miss {s : RState} {k : Key} (hg : getE s.ents k = none) : del1 s k = (s, false) := by
  simp only [del1, hg]

theorem reap_plain {c : Ctx} {s : RState} {now : Time} (hp : c.fl = .plain) : reap c s now = (s, 0) := by
  unfold reap
  exact if_pos (beq_iff_eq.mpr hp)

theorem reap_ne {c : Ctx} {s : RState} {now : Time} (hp : ¬ c.fl = .plain) :
    reap c s now = ({ s with ents := s.ents.filter (fun e => decide (now < e.dl)) },
      s.ents.length - (s.ents.filter (fun e => decide (now < e.dl))).length) := by
  unfold reap
  exact if_neg (mt beq_iff_eq.mp hp)

theorem pre_eager {c : Ctx} {s : RState} {now : Time} (he : c.fl = .eager) :
    pre c s now = { s with ents := s.ents.filter (fun e => decide (now < e.dl)) } := by
  unfold pre
  rw [if_pos (beq_iff_eq.mpr he), reap_ne (by rw [he]; decide)]

theorem pre_ne {c : Ctx} {s : RState} {now : Time} (he : ¬ c.fl = .eager) : pre c s now = s := by
  unfold pre
  exact if_neg (mt beq_iff_eq.mp he)

/-- `s'` is `s` with some entries removed (what a lookup, an erase and the purges do to a candidate) -/
def Sub (s' s : RState) : Prop := s'.ttl = s.ttl ∧ s'.ents.Sublist s.ents

theorem Sub.refl (s : RState) : Sub s s := ⟨rfl, List.Sublist.refl _⟩

theorem Sub.trans {s1 s2 s3 : RState} (h1 : Sub s1 s2) (h2 : Sub s2 s3) : Sub s1 s3 :=
  ⟨h1.1.trans h2.1, h1.2.trans h2.2⟩

theorem Sub.filter (s : RState) (p : Entry → Bool) : Sub { s with ents := s.ents.filter p } s :=
  ⟨rfl, List.filter_sublist⟩

theorem Sub.wf {s' s : RState} (h : Sub s' s) (hw : WF s) : WF s' := List.Pairwise.sublist h.2 hw

theorem Sub.mem {s' s : RState} (h : Sub s' s) {e : Entry} (he : e ∈ s'.ents) : e ∈ s.ents := h.2.subset he

theorem look1_sub (c : Ctx) (s : RState) (now : Time) (k : Key) : Sub (look1 c s now k).1 s := by
  unfold look1
  split
  · split
    · exact Sub.filter s _
    · exact Sub.refl s
  · exact Sub.refl s

theorem del1_sub (s : RState) (k : Key) : Sub (del1 s k).1 s := by
  unfold del1
  split
  · exact Sub.filter s _
  · exact Sub.refl s

theorem reap_sub (c : Ctx) (s : RState) (now : Time) : Sub (reap c s now).1 s := by
  unfold reap
  split
  · exact Sub.refl s
  · exact Sub.filter s _

theorem pre_sub (c : Ctx) (s : RState) (now : Time) : Sub (pre c s now) s := by
  unfold pre
  split
  · exact reap_sub c s now
  · exact Sub.refl s

section
variable {c : Ctx} {s : RState} {now : Time} {k : Key}

theorem ins1_step {v : Val} {a : Allow} {t : Nat} {surv : Option (List Key)} (hw : WF s) {s' : RState} {ok : Bool}
    (h : (s', ok) ∈ ins1 c s now k v a t surv) :
    WF s' ∧ s'.ttl = s.ttl ∧ AStep c.fl c.cap (absR s) now (.ins k v a (deadline c s now t) ok) (absR s') ∧
      ∀ e ∈ s'.ents, e ∈ s.ents ∨ e = { key := k, val := v, dl := deadline c s now t } := by
  cases hg : getE s.ents k with
  | some e =>
    have hget : (absR s).get k = some (e.val, e.dl) := absOf_get_some hg
    by_cases hc : a.upd = true ∨ (c.fl = .lazy ∧ a.ins = true ∧ e.dl ≤ now)
    · rw [ins1_upd hg hc] at h
      cases List.mem_singleton.mp h
      exact ⟨Sorted.put hw _, rfl,
        (AStep.ins_upd hget hc).2 ⟨rfl, absOf_put _ _, length_put_old (Sorted.nodup hw) hg⟩, fun _ => mem_put⟩
    · rw [ins1_keep hg hc] at h
      cases List.mem_singleton.mp h
      exact ⟨hw, rfl, (AStep.ins_keep hget hc).2 ⟨rfl, rfl⟩, fun _ => Or.inl⟩
  | none =>
    have hget : (absR s).get k = none := absOf_get_none hg
    by_cases hi : a.ins = true
    · by_cases hf : c.fl ≠ .eager ∧ c.cap ≤ s.ents.length
      · obtain ⟨vics, hv, _, heq⟩ := ins1_evict now v t surv hg hi hf
        rw [heq] at h
        obtain ⟨w, hwv, hw'⟩ := List.mem_map.mp h
        cases hw'
        have hwm := hv w hwv
        refine ⟨Sorted.put (Sorted.delE hw _) _, rfl, (AStep.ins_evict hget hi hf).2
          ⟨rfl, w.key, isSome_map_getE.mpr (mem_keys_of_mem hwm), ?_, ?_⟩, fun _ he => (mem_put he).imp_left mem_of_mem_delE⟩
        · show (absOf (put (delE s.ents w.key) _)).get = _
          rw [absOf_put, absOf_delE]; rfl
        · exact length_put_evict (Sorted.nodup hw) hwm hg
      · rw [ins1_new hg hi hf] at h
        cases List.mem_singleton.mp h
        exact ⟨Sorted.put hw _, rfl, (AStep.ins_new hget hi hf).2 ⟨rfl, absOf_put _ _, length_put_new hg⟩,
          fun _ => mem_put⟩
    · rw [ins1_rej hg hi] at h
      cases List.mem_singleton.mp h
      exact ⟨hw, rfl, (AStep.ins_rej hget hi).2 ⟨rfl, rfl⟩, fun _ => Or.inl⟩

/-- the atom's result record also carries a use count, which the acceptor does not predict: any record with the value
`look1` returns will do -/
theorem look1_astep (peek : Bool) (hw : WF s) {r : Option (Val × Nat)} (hr : r.map (·.1) = (look1 c s now k).2) :
    AStep c.fl c.cap (absR s) now (.look k peek r) (absR (look1 c s now k).1) := by
  cases hg : getE s.ents k with
  | some e =>
    have hget : (absR s).get k = some (e.val, e.dl) := absOf_get_some hg
    by_cases hc : c.fl = .lazy ∧ e.dl ≤ now
    · rw [look1_exp hg hc] at hr ⊢
      exact (AStep.look_exp hget hc).2
        ⟨Option.map_eq_none_iff.mp hr, absOf_delE _ _, length_delE_of_getE (Sorted.nodup hw) hg⟩
    · rw [look1_hit hg hc] at hr ⊢
      exact (AStep.look_hit hget hc).2 ⟨hr, rfl⟩
  | none =>
    rw [look1_miss hg] at hr ⊢
    exact (AStep.look_miss (absOf_get_none hg)).2 ⟨Option.map_eq_none_iff.mp hr, rfl⟩

theorem del1_astep (hw : WF s) :
    AStep c.fl c.cap (absR s) now (.del k (del1 s k).2) (absR (del1 s k).1) := by
  cases hg : getE s.ents k with
  | some e =>
    rw [del1_hit hg]
    exact (AStep.del_hit (absOf_get_some hg)).2
      ⟨rfl, absOf_delE _ _, length_delE_of_getE (Sorted.nodup hw) hg⟩
  | none =>
    rw [del1_miss hg]
    exact (AStep.del_miss (absOf_get_none hg)).2 ⟨rfl, rfl⟩

theorem reap_astep (hw : WF s) :
    AStep c.fl c.cap (absR s) now (.reap (reap c s now).2) (absR (reap c s now).1) := by
  by_cases hp : c.fl = .plain
  · rw [reap_plain hp]
    exact AStep.reap_plain_self hp
  · rw [reap_ne hp]
    exact (AStep.reap_ne hp).2
      ⟨absOf_filter_reap (Sorted.nodup hw) now, Nat.add_sub_of_le (List.length_filter_le _ _)⟩

theorem pre_astep (hw : WF s) : AStep c.fl c.cap (absR s) now .pre (absR (pre c s now)) := by
  by_cases he : c.fl = .eager
  · rw [pre_eager he]
    exact (AStep.pre_eager he).2 ⟨absOf_filter_reap (Sorted.nodup hw) now, List.length_filter_le _ _⟩
  · rw [pre_ne he]
    exact AStep.pre_self he
end

theorem ins1_sound (c : Ctx) (s : RState) (now : Time) (k : Key) (v : Val) (a : Allow) (t : Nat)
    (surv : Option (List Key)) (hw : WF s) (s' : RState) (ok : Bool)
    (h : (s', ok) ∈ ins1 c s now k v a t surv) :
    WF s' ∧ s'.ttl = s.ttl ∧ AStep c.fl c.cap (absR s) now (.ins k v a (deadline c s now t) ok) (absR s') :=
  have h := ins1_step hw h
  ⟨h.1, h.2.1, h.2.2.1⟩

theorem look1_sound (c : Ctx) (s : RState) (now : Time) (k : Key) (peek : Bool) (hw : WF s) :
    WF (look1 c s now k).1 ∧ (look1 c s now k).1.ttl = s.ttl ∧
    ∃ r : Option (Val × Nat), r.map (·.1) = (look1 c s now k).2 ∧
      AStep c.fl c.cap (absR s) now (.look k peek r) (absR (look1 c s now k).1) :=
  have hr : ((look1 c s now k).2.map (fun v => (v, 0))).map (·.1) = (look1 c s now k).2 := by
    cases (look1 c s now k).2 <;> rfl
  ⟨(look1_sub c s now k).wf hw, (look1_sub c s now k).1, _, hr, look1_astep peek hw hr⟩

theorem del1_sound (c : Ctx) (s : RState) (now : Time) (k : Key) (hw : WF s) :
    WF (del1 s k).1 ∧ (del1 s k).1.ttl = s.ttl ∧
    AStep c.fl c.cap (absR s) now (.del k (del1 s k).2) (absR (del1 s k).1) :=
  ⟨(del1_sub s k).wf hw, (del1_sub s k).1, del1_astep hw⟩

theorem reap_sound (c : Ctx) (s : RState) (now : Time) (hw : WF s) :
    WF (reap c s now).1 ∧ (reap c s now).1.ttl = s.ttl ∧
    AStep c.fl c.cap (absR s) now (.reap (reap c s now).2) (absR (reap c s now).1) :=
  ⟨(reap_sub c s now).wf hw, (reap_sub c s now).1, reap_astep hw⟩

theorem pre_sound (c : Ctx) (s : RState) (now : Time) (hw : WF s) :
    WF (pre c s now) ∧ (pre c s now).ttl = s.ttl ∧
    AStep c.fl c.cap (absR s) now .pre (absR (pre c s now)) :=
  ⟨(pre_sub c s now).wf hw, (pre_sub c s now).1, pre_astep hw⟩

theorem lookMany_sub (c : Ctx) (now : Time) (ks : List Key) (s : RState) : Sub (lookMany c now ks s).1 s := by
  induction ks generalizing s with
  | nil => exact Sub.refl s
  | cons k ks ih => exact (ih _).trans (look1_sub c s now k)

theorem delMany_sub (ks : List Key) (s : RState) : Sub (delMany ks s).1 s := by
  induction ks generalizing s with
  | nil => exact Sub.refl s
  | cons k ks ih => exact (ih _).trans (del1_sub s k)

theorem lookMany_arun (c : Ctx) (now : Time) (peek : Bool) (ks : List Key) (s : RState) (hw : WF s) :
    ∃ as, LookAtoms peek ks as (lookMany c now ks s).2 ∧
      ARun c.fl c.cap (absR s) (as.map (fun a => (now, a))) (absR (lookMany c now ks s).1) := by
  induction ks generalizing s with
  | nil => exact ⟨[], .nil, ARun.nil _⟩
  | cons k ks ih =>
    obtain ⟨h1, _, r, hr, hs⟩ := look1_sound c s now k peek hw
    obtain ⟨as, ha, hrun⟩ := ih _ h1
    refine ⟨.look k peek r :: as, ?_, ARun.cons hs hrun⟩
    show LookAtoms peek (k :: ks) _ ((look1 c s now k).2 :: _)
    rw [← hr]; exact .cons ha

theorem delMany_arun (c : Ctx) (now : Time) (ks : List Key) (s : RState) (hw : WF s) :
    ∃ as, DelAtoms ks as (delMany ks s).2 ∧
      ARun c.fl c.cap (absR s) (as.map (fun a => (now, a))) (absR (delMany ks s).1) := by
  induction ks generalizing s with
  | nil => exact ⟨[], .nil, ARun.nil _⟩
  | cons k ks ih =>
    obtain ⟨as, ha, hrun⟩ := ih _ ((del1_sub s k).wf hw)
    exact ⟨.del k (del1 s k).2 :: as, .cons ha, ARun.cons (del1_astep hw) hrun⟩

theorem deadline_congr (c : Ctx) {s t : RState} (h : s.ttl = t.ttl) (now : Time) : deadline c s now = deadline c t now := by
  funext tt; unfold deadline; rw [h]

/-- a freshly written entry, as the acceptor builds it -/
def Fresh (c : Ctx) (s : RState) (now : Time) (ks : List Key) (e : Entry) : Prop :=
  ∃ k v tt, k ∈ ks ∧ e = { key := k, val := v, dl := deadline c s now tt }

/-- a path through `ins1` for the elements of a range insert, from a candidate with the count of successes so far
to a candidate with the count at the end -/
inductive InsChain (c : Ctx) (now : Time) (a : Allow) (surv : Option (List Key)) :
    List (Key × Val × Nat) → RState × Nat → RState × Nat → Prop
  | nil (p) : InsChain c now a surv [] p p
  | cons {k v t xs q s' ok p} : (s', ok) ∈ ins1 c q.1 now k v a t surv →
      InsChain c now a surv xs (s', q.2 + (if ok then 1 else 0)) p → InsChain c now a surv ((k, v, t) :: xs) q p

theorem mem_insMany {c : Ctx} {now : Time} {a : Allow} {surv : Option (List Key)}
    {xs : List (Key × Val × Nat)} {acc r : List (RState × Nat)} (h : insMany c now a surv xs acc = some r)
    {p : RState × Nat} : p ∈ r ↔ ∃ q ∈ acc, InsChain c now a surv xs q p := by
  induction xs generalizing acc with
  | nil =>
    cases h
    refine ⟨fun hp => ⟨p, hp, .nil p⟩, ?_⟩
    rintro ⟨q, hq, hc⟩
    cases hc
    exact hq
  | cons x xs ih =>
    -- by definition `h : (if raw.length > candLimit then none else insMany … xs (dedup raw)) = some r`
    -- (`rw [insMany]` would make Lean derive the equation lemmas of `insMany`, which is slow)
    rw [ih (Option.ite_none_left_eq_some.mp h).2]
    constructor
    · rintro ⟨q', hq', hc⟩
      obtain ⟨q, hq, hq'⟩ := List.mem_flatMap.mp (mem_dedup.mp hq')
      obtain ⟨⟨s', ok⟩, hin, rfl⟩ := List.mem_map.mp hq'
      exact ⟨q, hq, .cons hin hc⟩
    · rintro ⟨q, hq, hc⟩
      cases hc with
      | cons hin hc =>
        exact ⟨_, mem_dedup.mpr (List.mem_flatMap.mpr ⟨q, hq, List.mem_map.mpr ⟨(_, _), hin, rfl⟩⟩), hc⟩

/-- `s0` is the state the call was made in: the deadlines are computed from its configured TTL, which every candidate
along the path has -/
theorem InsChain.step {c : Ctx} {now : Time} {a : Allow} {surv : Option (List Key)} (s0 : RState)
    {xs : List (Key × Val × Nat)} {q p : RState × Nat} (h : InsChain c now a surv xs q p) :
    WF q.1 → q.1.ttl = s0.ttl → WF p.1 ∧ p.1.ttl = s0.ttl ∧
      (∃ as m, InsAtomsD a (deadline c s0 now) xs as m ∧ p.2 = q.2 + m ∧
        ARun c.fl c.cap (absR q.1) (as.map (fun x => (now, x))) (absR p.1)) ∧
      ∀ e ∈ p.1.ents, e ∈ q.1.ents ∨ Fresh c s0 now (xs.map (·.1)) e := by
  induction h with
  | nil p => exact fun hw ht => ⟨hw, ht, ⟨[], 0, .nil, rfl, ARun.nil _⟩, fun _ => Or.inl⟩
  | @cons k v t xs q s' ok p hin _ ih =>
    intro hw ht
    obtain ⟨h1, h2, h3, h4⟩ := ins1_step hw hin
    rw [deadline_congr c ht] at h3 h4
    obtain ⟨hw', ht', ⟨as, m, hins, hpm, hrun⟩, hents⟩ := ih h1 (h2.trans ht)
    refine ⟨hw', ht', ⟨_ :: as, _ + m, .cons hins, by rw [hpm, Nat.add_assoc], ARun.cons h3 hrun⟩, fun e he => ?_⟩
    rcases hents e he with h5 | h5
    · exact (h4 e h5).imp_right (fun h6 => ⟨k, v, t, List.mem_cons_self .., h6⟩)
    · obtain ⟨k', v', tt, hm, rfl⟩ := h5
      exact Or.inr ⟨k', v', tt, List.mem_cons_of_mem _ hm, rfl⟩

theorem reap_mem {c : Ctx} {s : RState} {now : Time} {e : Entry} (he : e ∈ (reap c s now).1.ents) :
    e ∈ s.ents ∧ (c.fl ≠ .plain → now < e.dl) := by
  by_cases hp : c.fl = .plain
  · rw [reap_plain hp] at he
    exact ⟨he, fun hh => absurd hp hh⟩
  · rw [reap_ne hp] at he
    exact ⟨(List.mem_filter.mp he).1, fun _ => of_decide_eq_true (List.mem_filter.mp he).2⟩

theorem pre_mem {c : Ctx} {s : RState} {now : Time} {e : Entry} (he : e ∈ (pre c s now).ents) :
    e ∈ s.ents ∧ (c.fl = .eager → now < e.dl) := by
  by_cases hp : c.fl = .eager
  · rw [pre_eager hp] at he
    exact ⟨(List.mem_filter.mp he).1, fun _ => of_decide_eq_true (List.mem_filter.mp he).2⟩
  · rw [pre_ne hp] at he
    exact ⟨he, fun hh => absurd hh hp⟩

def insKeys : Op → List Key
  | .insert k _ _ _ => [k]
  | .insertRange xs _ => xs.map (·.1)
  | _ => []

/-- where the entries of a successor come from: every one is an old one (live, if the call starts with the purge
of the unbounded containers) or a fresh one for an inserted key -/
def Prov (c : Ctx) (s : RState) (now : Time) (op : Op) (s' : RState) : Prop :=
  ∀ e ∈ s'.ents, (e ∈ s.ents ∧ (c.fl = .eager → purges op = true → now < e.dl)) ∨ Fresh c s now (insKeys op) e

theorem Prov.of_pre {c : Ctx} {s s' : RState} {now : Time} {op : Op}
    (h : ∀ e ∈ s'.ents, e ∈ (pre c s now).ents ∨ Fresh c s now (insKeys op) e) : Prov c s now op s' :=
  fun e he => (h e he).imp_left (fun h1 => ⟨(pre_mem h1).1, fun h2 _ => (pre_mem h1).2 h2⟩)

theorem Prov.of_sub_pre {c : Ctx} {s s' : RState} {now : Time} {op : Op} (h : Sub s' (pre c s now)) :
    Prov c s now op s' :=
  .of_pre fun _ he => Or.inl (h.mem he)

theorem Prov.of_ents_eq {c : Ctx} {s s' : RState} {now : Time} {op : Op} (h : s'.ents = s.ents)
    (hp : purges op = false) : Prov c s now op s' :=
  fun e he => Or.inl ⟨h ▸ he, fun _ hp' => by rw [hp] at hp'; cases hp'⟩

theorem succ?_step {c : Ctx} {s : RState} {now : Time} {surv : Option (List Key)} {op : Op}
    (hw : WF s) {l : List (RState × XOut)} (h : succ? c s now surv op = some l)
    {s' : RState} {x : XOut} (hm : (s', x) ∈ l) :
    ExplainedD c s now op s' x ∧ Prov c s now op s' := by
  have hps := pre_sub c s now
  have hpw := hps.wf hw
  have hpre : AStep c.fl c.cap (absR s) now .pre (absR (pre c s now)) := pre_astep hw
  -- each case builds `ExplainedD` as ⟨`WF s'`, the ttl of `s'`, the atoms, their shape `OpAtomsD`, their run from
  -- `absR s`⟩, then `Prov`; a call on keys starts with `.pre`, so its primitives are applied to `pre c s now`
  cases op with
  | insert k v a t =>
    obtain rfl := Option.some.inj h
    obtain ⟨⟨s1, ok⟩, hin, heq⟩ := List.mem_map.mp hm
    cases heq
    obtain ⟨h1, h2, h3, h4⟩ := ins1_step hpw hin
    -- `ins1` computed the deadline from the purged state, which has the ttl of `s`
    rw [deadline_congr c hps.1] at h3 h4
    exact ⟨⟨h1, h2.trans hps.1, _, .insert, ARun.cons hpre (ARun.single h3)⟩,
      .of_pre (fun e he => (h4 e he).imp_right (fun h5 => ⟨k, v, t, List.mem_singleton.mpr rfl, h5⟩))⟩
  | insertRange xs a =>
    simp only [succ?, Option.map_eq_some_iff] at h
    obtain ⟨r, hr, rfl⟩ := h
    obtain ⟨⟨s1, n⟩, hin, heq⟩ := List.mem_map.mp hm
    cases heq
    obtain ⟨q, hq, hch⟩ := (mem_insMany hr).mp hin
    cases List.mem_singleton.mp hq
    obtain ⟨h1, h2, ⟨as, m, hins, hpm, hrun⟩, hents⟩ := hch.step s hpw hps.1
    obtain rfl : n = m := hpm.trans (Nat.zero_add m)
    exact ⟨⟨h1, h2, _, .insertRange hins, ARun.cons hpre hrun⟩, .of_pre hents⟩
  | find k peek | findCount k peek =>
    obtain rfl := Option.some.inj h
    obtain ⟨rfl, rfl⟩ := Prod.mk.inj (List.mem_singleton.mp hm)
    have hsub := look1_sub c (pre c s now) now k
    obtain ⟨_, _, r, hr, h3⟩ := look1_sound c _ now k peek hpw
    rw [← hr]
    exact ⟨⟨hsub.wf hpw, hsub.1.trans hps.1, [.pre, .look k peek r], by constructor, ARun.cons hpre (ARun.single h3)⟩,
      .of_sub_pre hsub⟩
  | findRange ks peek =>
    obtain rfl := Option.some.inj h
    obtain ⟨rfl, rfl⟩ := Prod.mk.inj (List.mem_singleton.mp hm)
    have hsub := lookMany_sub c now ks (pre c s now)
    obtain ⟨as, ha, hrun⟩ := lookMany_arun c now peek ks _ hpw
    exact ⟨⟨hsub.wf hpw, hsub.1.trans hps.1, _, .findRange ha, ARun.cons hpre hrun⟩,
      .of_sub_pre hsub⟩
  | erase k =>
    obtain rfl := Option.some.inj h
    obtain ⟨rfl, rfl⟩ := Prod.mk.inj (List.mem_singleton.mp hm)
    have hsub := del1_sub (pre c s now) k
    exact ⟨⟨hsub.wf hpw, hsub.1.trans hps.1, _, .erase, ARun.cons hpre (ARun.single (del1_astep hpw))⟩,
      .of_sub_pre hsub⟩
  | eraseRange ks =>
    obtain rfl := Option.some.inj h
    obtain ⟨rfl, rfl⟩ := Prod.mk.inj (List.mem_singleton.mp hm)
    have hsub := delMany_sub ks (pre c s now)
    obtain ⟨as, ha, hrun⟩ := delMany_arun c now ks _ hpw
    exact ⟨⟨hsub.wf hpw, hsub.1.trans hps.1, _, .eraseRange ha, ARun.cons hpre hrun⟩,
      .of_sub_pre hsub⟩
  | clear =>
    obtain rfl := Option.some.inj h
    -- `succ` on `.clear`, its test written as `hasClear c` (the same by definition) so that `hc` rewrites it
    have hm : (s', x) ∈ if hasClear c = true then [({ s with ents := [] }, some Out.unit)] else [(s, some .unit)] := hm
    by_cases hc : hasClear c = true
    · rw [if_pos hc] at hm
      obtain ⟨rfl, rfl⟩ := Prod.mk.inj (List.mem_singleton.mp hm)
      exact ⟨⟨List.Pairwise.nil, rfl, _, .clear hc, ARun.single (show AStep _ _ _ _ .clear _ from ⟨rfl, rfl⟩)⟩,
        fun _ he => nomatch he⟩
    · rw [if_neg hc] at hm
      obtain ⟨rfl, rfl⟩ := Prod.mk.inj (List.mem_singleton.mp hm)
      exact ⟨⟨hw, rfl, _, .noClear ((Bool.not_eq_true _).mp hc), ARun.nil _⟩, .of_ents_eq rfl rfl⟩
  | clean =>
    obtain rfl := Option.some.inj h
    obtain ⟨rfl, rfl⟩ := Prod.mk.inj (List.mem_singleton.mp hm)
    have hsub := reap_sub c s now
    exact ⟨⟨hsub.wf hw, hsub.1, _, .clean, ARun.single (reap_astep hw)⟩,
      fun e he => Or.inl ⟨(reap_mem he).1, fun h2 _ => (reap_mem he).2 (by rw [h2]; decide)⟩⟩
  | age =>
    obtain rfl := Option.some.inj h
    obtain ⟨rfl, rfl⟩ := Prod.mk.inj (List.mem_singleton.mp hm)
    exact ⟨⟨hw, rfl, _, .age (n := 0), ARun.single (show AStep _ _ _ _ (.age 0) _ from rfl)⟩,
      .of_ents_eq rfl rfl⟩
  | updateTtl t =>
    obtain rfl := Option.some.inj h
    obtain ⟨rfl, rfl⟩ := Prod.mk.inj (List.mem_singleton.mp hm)
    by_cases hk : (c.kind == .utlru) = true
    · rw [if_pos hk]
      exact ⟨⟨hw, (if_pos hk).symm, _, .updateTtl, ARun.single (show AStep _ _ _ _ (.setTtl t) _ from rfl)⟩,
        .of_ents_eq rfl rfl⟩
    · rw [if_neg hk]
      exact ⟨⟨hw, (if_neg hk).symm, _, .updateTtl, ARun.single (show AStep _ _ _ _ (.setTtl t) _ from rfl)⟩,
        .of_ents_eq rfl rfl⟩
  | size =>
    obtain rfl := Option.some.inj h
    obtain ⟨rfl, rfl⟩ := Prod.mk.inj (List.mem_singleton.mp hm)
    exact ⟨⟨hw, rfl, _, .size, ARun.single (show AStep _ _ _ _ (.obsSize _) _ from ⟨rfl, rfl⟩)⟩,
      .of_ents_eq rfl rfl⟩
  | empty =>
    obtain rfl := Option.some.inj h
    obtain ⟨rfl, rfl⟩ := Prod.mk.inj (List.mem_singleton.mp hm)
    exact ⟨⟨hw, rfl, _, .empty, ARun.single (show AStep _ _ _ _ (.obsEmpty _) _ from ⟨rfl, rfl⟩)⟩,
      .of_ents_eq rfl rfl⟩
  | capacity =>
    obtain rfl := Option.some.inj h
    obtain ⟨rfl, rfl⟩ := Prod.mk.inj (List.mem_singleton.mp hm)
    exact ⟨⟨hw, rfl, _, .capacity (fun he => if_pos (beq_iff_eq.mpr he)),
      ARun.single (show AStep _ _ _ _ (.obsCap _) _ from ⟨fun hne => if_neg (mt beq_iff_eq.mp hne), rfl⟩)⟩,
      .of_ents_eq rfl rfl⟩

theorem succ?_sound (c : Ctx) (s : RState) (now : Time) (surv : Option (List Key)) (op : Op)
    (hw : WF s) (l : List (RState × XOut)) (h : succ? c s now surv op = some l)
    (s' : RState) (x : XOut) (hm : (s', x) ∈ l) :
    WF s' ∧ Explained c s now op s' x :=
  have h := (succ?_step hw h hm).1
  ⟨h.1, h.toExplained⟩

/-! `surv`, `keep` and `quick` of `loop`'s body, under names -/

def survOf (c : Ctx) (e : Event) : Option (List Key) :=
  if c.fl == .plain then some (e.obs.sweep.map (·.1)) else none

def keepOf (c : Ctx) (e : Event) (css : List (List (RState × XOut))) : List RState :=
  dedup ((css.flatten.filter (fun (s, x) => outOk x e.out && obsOk c s e.now e.obs)).map (·.1))

def quickOf (c : Ctx) (cs : List RState) (e : Event) (surv : Option (List Key)) : List RState :=
  match surv with
  | some _ => (match cs.mapM (fun s => succ? c s e.now surv e.op) with
    | some css => keepOf c e css
    | none => [])
  | none => []

theorem loop_cons (c : Ctx) (cs : List RState) (idx : Nat) (e : Event) (es : List Event) (mx : Nat) :
    loop c cs idx (e :: es) mx =
      if c.fl == .eager && purges e.op && e.obs.size != e.obs.sweep.length then
        (some ⟨idx, ["C02"], s!"eager-size-live size={e.obs.size} live={e.obs.sweep.length}"⟩, mx)
      else if !(quickOf c cs e (survOf c e)).isEmpty then
        loop c (quickOf c cs e (survOf c e)) (idx + 1) es (max mx (quickOf c cs e (survOf c e)).length)
      else
        match cs.mapM (fun s => succ? c s e.now none e.op) with
        | none => (none, candLimit + 1)
        | some css =>
          if (keepOf c e css).isEmpty then
            let (ps, d) := classify c e css.flatten
            (some ⟨idx, ps, d⟩, mx)
          else if (keepOf c e css).length > candLimit then (none, (keepOf c e css).length)
          else loop c (keepOf c e css) (idx + 1) es (max mx (keepOf c e css).length) := by
  -- the `let (ps, d) := …` is kept as `loop` has it, so that `rfl` need not unfold `classify`
  rfl

theorem mem_keepOf {c : Ctx} {cs : List RState} {e : Event} {surv : Option (List Key)}
    {css : List (List (RState × XOut))} (hcss : cs.mapM (fun s => succ? c s e.now surv e.op) = some css)
    {s' : RState} : s' ∈ keepOf c e css ↔ ∃ s ∈ cs, ∃ l x, succ? c s e.now surv e.op = some l ∧ (s', x) ∈ l ∧
      outOk x e.out = true ∧ obsOk c s' e.now e.obs = true := by
  obtain ⟨h1, h2⟩ := mapM_option_some hcss
  unfold keepOf
  rw [mem_dedup, List.mem_map]
  constructor
  · rintro ⟨⟨s1, x⟩, hf, rfl⟩
    obtain ⟨hfl, hok⟩ := List.mem_filter.mp hf
    obtain ⟨li, hli, hin⟩ := List.mem_flatten.mp hfl
    obtain ⟨s, hs, hsucc⟩ := h2 li hli
    exact ⟨s, hs, li, x, hsucc, hin, (Bool.and_eq_true _ _).mp hok⟩
  · rintro ⟨s, hs, l, x, hsucc, hin, hok⟩
    obtain ⟨l', hl', hfl'⟩ := h1 s hs
    cases hsucc.symm.trans hfl'
    exact ⟨(s', x), List.mem_filter.mpr ⟨List.mem_flatten.mpr ⟨l, hl', hin⟩, (Bool.and_eq_true _ _).mpr hok⟩, rfl⟩

theorem quickOf_ne_nil {c : Ctx} {cs : List RState} {e : Event} {surv : Option (List Key)}
    (h : quickOf c cs e surv ≠ []) :
    surv ≠ none ∧ ∃ css, cs.mapM (fun s => succ? c s e.now surv e.op) = some css ∧
      quickOf c cs e surv = keepOf c e css := by
  unfold quickOf at h ⊢
  cases surv with
  | none => exact absurd rfl h
  | some sv =>
    simp only at h ⊢
    cases hq : cs.mapM (fun s => succ? c s e.now (some sv) e.op) with
    | none => rw [hq] at h; exact absurd rfl h
    | some css => exact ⟨nofun, css, rfl, rfl⟩

/-- one round of `loop`, by outcome: rejected by the size test of ut_map / ut_set; gave up because `succ?` overflowed;
or the successors `css` were computed (with the survivors hint only in the plain flavor and only if some candidate then
fits) and the log is rejected because none fits the event, given up because more than `candLimit` fit, or the loop goes
on with those that fit (`keepOf`) -/
theorem loop_cons_cases {c : Ctx} {cs : List RState} {idx : Nat} {e : Event} {es : List Event} {mx : Nat}
    {r : Option Fail × Nat} (h : loop c cs idx (e :: es) mx = r) :
    ((c.fl == .eager && purges e.op && e.obs.size != e.obs.sweep.length) = true ∧ r.1.isSome = true) ∨
    ¬ (c.fl == .eager && purges e.op && e.obs.size != e.obs.sweep.length) = true ∧
      ((cs.mapM (fun s => succ? c s e.now none e.op) = none ∧ r = (none, candLimit + 1)) ∨
       ∃ surv css, cs.mapM (fun s => succ? c s e.now surv e.op) = some css ∧
         (surv = none ∨ (c.fl = .plain ∧ keepOf c e css ≠ [])) ∧
         ((keepOf c e css = [] ∧ r.1.isSome = true) ∨
          (candLimit < (keepOf c e css).length ∧ r = (none, (keepOf c e css).length)) ∨
          (keepOf c e css ≠ [] ∧ ∃ idx' mx', loop c (keepOf c e css) idx' es mx' = r))) := by
  rw [loop_cons] at h
  by_cases hchk : (c.fl == .eager && purges e.op && e.obs.size != e.obs.sweep.length) = true
  · rw [if_pos hchk] at h; cases h
    exact Or.inl ⟨hchk, rfl⟩
  refine Or.inr ⟨hchk, ?_⟩
  rw [if_neg hchk] at h
  by_cases hq : (!(quickOf c cs e (survOf c e)).isEmpty) = true
  · rw [if_pos hq] at h
    have hne : quickOf c cs e (survOf c e) ≠ [] := fun hnil => by rw [hnil] at hq; cases hq
    obtain ⟨hsurv, css, hcss, heq⟩ := quickOf_ne_nil hne
    rw [heq] at h hne
    have hp : c.fl = .plain := by simpa [survOf] using hsurv
    exact Or.inr ⟨_, css, hcss, Or.inr ⟨hp, hne⟩, Or.inr (Or.inr ⟨hne, _, _, h⟩)⟩
  rw [if_neg hq] at h
  cases hcss : cs.mapM (fun s => succ? c s e.now none e.op) with
  | none => rw [hcss] at h; exact Or.inl ⟨rfl, h.symm⟩
  | some css =>
    rw [hcss] at h
    simp only at h
    refine Or.inr ⟨none, css, hcss, Or.inl rfl, ?_⟩
    by_cases hke : (keepOf c e css).isEmpty = true
    · rw [if_pos hke] at h; cases h
      refine Or.inl ⟨List.isEmpty_iff.mp hke, ?_⟩
      cases classify c e css.flatten
      rfl
    rw [if_neg hke] at h
    by_cases hgt : (keepOf c e css).length > candLimit
    · rw [if_pos hgt] at h; exact Or.inr (Or.inl ⟨hgt, h.symm⟩)
    rw [if_neg hgt] at h
    exact Or.inr (Or.inr ⟨fun hnil => hke (by rw [hnil]; rfl), _, _, h⟩)

theorem loop_cons_none {c : Ctx} {cs : List RState} {idx : Nat} {e : Event} {es : List Event} {mx m : Nat}
    (h : loop c cs idx (e :: es) mx = (none, m)) (hm : m ≤ candLimit) :
    ¬ (c.fl == .eager && purges e.op && e.obs.size != e.obs.sweep.length) = true ∧
    ∃ keep idx' mx', keep ≠ [] ∧ loop c keep idx' es mx' = (none, m) ∧
      ∀ s' ∈ keep, ∃ surv, ∃ s ∈ cs, ∃ l x, succ? c s e.now surv e.op = some l ∧ (s', x) ∈ l ∧
        outOk x e.out = true ∧ obsOk c s' e.now e.obs = true := by
  rcases loop_cons_cases h with
    ⟨_, hs⟩ | ⟨hchk, ⟨_, hr⟩ | ⟨surv, css, hcss, _, ⟨_, hs⟩ | ⟨hgt, hr⟩ | ⟨hne, idx', mx', hl⟩⟩⟩
  · cases hs
  · cases hr
    exact absurd hm (Nat.not_succ_le_self _)
  · cases hs
  · cases hr
    exact absurd hm (Nat.not_le_of_gt hgt)
  · exact ⟨hchk, _, idx', mx', hne, hl, fun s' hs' => ⟨surv, (mem_keepOf hcss).mp hs'⟩⟩

/-- `loop` itself compares `size()` with the sweep after every purging call of ut_map / ut_set (its first test), so an
accepted log has the equality at those events: a fact about the verdict, not about the explaining chain. -/
theorem loop_eager_size {c : Ctx} {evs : List Event} {cs : List RState} {idx mx m : Nat}
    (h : loop c cs idx evs mx = (none, m)) (hm : m ≤ candLimit) :
    ∀ e ∈ evs, c.fl = .eager → purges e.op = true → e.obs.size = e.obs.sweep.length := by
  induction evs generalizing cs idx mx with
  | nil => intro e he; cases he
  | cons e es ih =>
    intro e' he' hfl hp
    obtain ⟨hchk, _, _, _, _, hl, _⟩ := loop_cons_none h hm
    rcases List.mem_cons.1 he' with rfl | he'
    · have hfl' : (c.fl == Flavor.eager) = true := beq_iff_eq.2 hfl
      simpa only [hfl', hp, Bool.and_self, Bool.true_and, bne_iff_ne, ne_eq, Decidable.not_not] using hchk
    · exact ih hl e' he' hfl hp

theorem loop_soundD {c : Ctx} {cs : List RState} {idx : Nat} {evs : List Event} {mx m : Nat}
    (hw : ∀ s ∈ cs, WF s) (hne : cs ≠ [])
    (h : loop c cs idx evs mx = (none, m)) (hm : m ≤ candLimit) :
    ∃ s ∈ cs, ExplainsD c s evs := by
  induction evs generalizing cs idx mx with
  | nil =>
    obtain ⟨s, hs⟩ := List.exists_mem_of_ne_nil cs hne
    exact ⟨s, hs, .nil s⟩
  | cons e es ih =>
    obtain ⟨_, keep, _, _, hk, hl, hs⟩ := loop_cons_none h hm
    have hex : ∀ s' ∈ keep, WF s' ∧ ∃ s ∈ cs, ∃ x, ExplainedD c s e.now e.op s' x ∧ outOk x e.out = true ∧
        obsOk c s' e.now e.obs = true := by
      intro s' hs'
      obtain ⟨surv, s, hsm, l, x, hsucc, hin, h2, h3⟩ := hs s' hs'
      have h1 := (succ?_step (hw s hsm) hsucc hin).1
      exact ⟨h1.1, s, hsm, x, h1, h2, h3⟩
    obtain ⟨s', hs'm, hch⟩ := ih (fun s' h' => (hex s' h').1) hk hl
    obtain ⟨_, s, hsm, x, h1, h2, h3⟩ := hex s' hs'm
    exact ⟨s, hsm, .cons h1 h2 h3 hch⟩

theorem loop_sound (c : Ctx) (cs : List RState) (idx : Nat) (evs : List Event) (mx m : Nat)
    (hw : ∀ s ∈ cs, WF s) (hne : cs ≠ [])
    (h : loop c cs idx evs mx = (none, m)) (hm : m ≤ candLimit) :
    ∃ s ∈ cs, Explains c s evs :=
  (loop_soundD hw hne h hm).imp fun _ hs => hs.imp_right ExplainsD.toExplains

/-- An accepted log is explained by the reference semantics in the strict sense. -/
theorem accept_soundD (cfg : Cfg) (nkeys : Nat) (evs : List Event) (m : Nat)
    (h : accept cfg nkeys evs = (none, m)) (hm : m ≤ candLimit) :
    ExplainsD { kind := cfg.kind, fl := flavorOf cfg.kind, cap := cfg.cap, nkeys := nkeys }
      { ents := [], ttl := cfg.ttl * msNs } evs := by
  unfold accept at h
  obtain ⟨s, hs, hex⟩ := loop_soundD (fun s hs => by rw [List.mem_singleton.mp hs]; exact List.Pairwise.nil)
    (List.cons_ne_nil _ _) h hm
  rwa [List.mem_singleton.mp hs] at hex

/-- An accepted log is a run of the reference semantics from the empty container. -/
theorem accept_sound (cfg : Cfg) (nkeys : Nat) (evs : List Event) (m : Nat)
    (h : accept cfg nkeys evs = (none, m)) (hm : m ≤ candLimit) :
    Explains { kind := cfg.kind, fl := flavorOf cfg.kind, cap := cfg.cap, nkeys := nkeys }
      { ents := [], ttl := cfg.ttl * msNs } evs :=
  (accept_soundD cfg nkeys evs m h hm).toExplains

/-- event `i` of an explained log as one explained call, with an invariant `I` carried along the chain up to it
(`step`); `I pre s` speaks of the events so far and the state they led to.  `Capstone.accepted_event` is the instance
`ChainInv`. -/
theorem ExplainsD.event {c : Ctx} (I : List Event → RState → Prop)
    (step : ∀ {pre s s' x e}, I pre s → ExplainedD c s e.now e.op s' x → outOk x e.out = true → I (pre ++ [e]) s')
    {s : RState} {evs : List Event} (hex : ExplainsD c s evs) :
    ∀ (pre : List Event), I pre s → ∀ {i : Nat} {e : Event}, evs[i]? = some e →
    ∃ s₁ s₂ x, I (pre ++ evs.take i) s₁ ∧ ExplainedD c s₁ e.now e.op s₂ x ∧ outOk x e.out = true ∧
      obsOk c s₂ e.now e.obs = true := by
  induction hex with
  | nil s => intro _ _ i e hi; cases hi
  | @cons s s' x e es h1 h2 h3 _ ih =>
    intro pre h0 i ei hi
    cases i with
    | zero =>
      cases hi
      exact ⟨s, s', x, by rwa [List.take_zero, List.append_nil], h1, h2, h3⟩
    | succ i =>
      have := ih (pre ++ [e]) (step h0 h1 h2) hi
      rwa [List.append_assoc] at this

end Verif.Accept
