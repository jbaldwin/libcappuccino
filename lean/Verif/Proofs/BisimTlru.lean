import Verif.Proofs.Refine.Tlru
/-!
# C19 for tlru_cache / utlru_cache, the continuation half

`C19_tlru` / `C19_utlru`: a call with no effect removes at most entries already expired at its clock reading
`t0`.  Here: two states whose entries NOT yet expired at `t0` coincide (`Rel`) answer every later call alike.
Exempt: `size()`, `empty()` and the count of `clean_expired_values()` (`sameOut`; KF3), and an erase or
update-only insert of a key resident but dead at `t0` in either state (`touchy`): it may succeed on one side and
fail on the other — the latitude the property grants.

The idea: the `view` of a state is what is left of it when the entries dead at `t0` are ignored.  Each primitive,
run at a reading ≥ `t0`, returns a result and leaves a view that are functions of the view before (`*_view`), so
related states get the same result and stay related (`Rel.of_view`).
-/
namespace Verif.Bisim
open Verif

/-- the entries not yet expired at `t0` -/
def aliveE (t0 : Time) (l : List Entry) : List Entry := l.filter (fun e => decide (t0 < e.dl))
def aliveQ (t0 : Time) (q : List (Time × Key)) : List (Time × Key) := q.filter (fun x => decide (t0 < x.1))

/-- is `k` resident in `s` with a deadline that had passed at `t0`? -/
def deadKey (t0 : Time) (s : TlruState) (k : Key) : Bool :=
  match getE s.ents k with
  | some e => decide (e.dl ≤ t0)
  | none => false

/-- The fields of an entry that tlru_cache / utlru_cache use.  `Rel` compares entries through it: `Tlru.Inv` does
not constrain the other fields, and an overwrite keeps them while a creating insert resets them, so comparing
them would make the step theorems false for states with junk in them. -/
def vis (e : Entry) : Key × Val × Time := (e.key, e.val, e.dl)

structure Rel (cap : Nat) (t0 : Time) (s s' : TlruState) : Prop where
  inv : Tlru.Inv cap s
  inv' : Tlru.Inv cap s'
  ttl : s.ttl = s'.ttl
  ents : (aliveE t0 s.ents).map vis = (aliveE t0 s'.ents).map vis
  tq : aliveQ t0 s.tq = aliveQ t0 s'.tq

/-- calls whose result the property lets differ: an erase or update-only insert addressed to a key that
is dead-at-`t0` on either side -/
def touchy (t0 : Time) (s s' : TlruState) : Op → Bool
  | .erase k => deadKey t0 s k || deadKey t0 s' k
  | .eraseRange ks => ks.any (fun k => deadKey t0 s k || deadKey t0 s' k)
  | .insert k _ .update _ => deadKey t0 s k || deadKey t0 s' k
  | .insertRange xs .update => xs.any (fun x => deadKey t0 s x.1 || deadKey t0 s' x.1)
  | _ => false

/-- outputs equal, except those that count unreaped entries -/
def sameOut : Op → Out → Out → Prop
  | .size, _, _ => True
  | .empty, _, _ => True
  | .clean, _, _ => True
  | _, a, b => a = b

/-- the visible part of the entries alive at `t0`, in recency order -/
def vE (t0 : Time) (l : List Entry) : List (Key × Val × Time) := (aliveE t0 l).map vis

def vfind (E : List (Key × Val × Time)) (k : Key) : Option (Key × Val × Time) :=
  E.find? (fun x => decide (x.1 = k))

def vdel (E : List (Key × Val × Time)) (k : Key) : List (Key × Val × Time) :=
  E.filter (fun x => !decide (x.1 = k))

theorem vE_cons (t0 : Time) (e : Entry) (l : List Entry) :
    vE t0 (e :: l) = if t0 < e.dl then vis e :: vE t0 l else vE t0 l := by
  simp only [vE, aliveE, List.filter_cons]
  by_cases h : t0 < e.dl <;> simp [h]

theorem vE_append (t0 : Time) (l₁ l₂ : List Entry) : vE t0 (l₁ ++ l₂) = vE t0 l₁ ++ vE t0 l₂ := by
  simp [vE, aliveE]

theorem vE_snoc (t0 : Time) (l : List Entry) (e : Entry) :
    vE t0 (l ++ [e]) = vE t0 l ++ (if t0 < e.dl then [vis e] else []) := by
  rw [vE_append]
  congr 1
  rw [vE_cons]
  rfl

theorem vE_delE (t0 : Time) (l : List Entry) (k : Key) : vE t0 (delE l k) = vdel (vE t0 l) k := by
  simp only [vE, aliveE, delE, vdel, List.filter_map, List.filter_filter]
  exact congrArg _ (List.filter_congr fun e _ => Bool.and_comm _ _)

theorem vE_length_le (t0 : Time) (l : List Entry) : (vE t0 l).length ≤ l.length := by
  simp only [vE, List.length_map, aliveE]; exact List.length_filter_le _ _

theorem vfind_vE {l : List Entry} (hn : (keys l).Nodup) (t0 : Time) (k : Key) :
    vfind (vE t0 l) k = ((getE l k).filter (fun e => decide (t0 < e.dl))).map vis := by
  rw [← getE_filter hn]
  simp only [vfind, vE, aliveE, getE, List.find?_map]
  rfl

theorem vdel_of_vfind_none {E : List (Key × Val × Time)} {k : Key} (h : vfind E k = none) :
    vdel E k = E := by
  unfold vdel
  rw [List.filter_eq_self]
  intro x hx
  have := List.find?_eq_none.mp h x hx
  simpa using this

theorem vfind_key {E : List (Key × Val × Time)} {k : Key} {x : Key × Val × Time}
    (h : vfind E k = some x) : x.1 = k := by
  simpa using List.find?_some h

theorem aliveQ_unfile (t0 : Time) (q : List (Time × Key)) (k : Key) :
    aliveQ t0 (Tlru.unfile q k) = Tlru.unfile (aliveQ t0 q) k := by
  simp only [aliveQ, Tlru.unfile, List.filter_filter]
  apply List.filter_congr
  intro x _
  exact Bool.and_comm _ _

theorem aliveQ_fileDl (t0 : Time) (q : List (Time × Key)) (d : Time) (k : Key) :
    aliveQ t0 (Tlru.fileDl q d k) = if t0 < d then Tlru.fileDl (aliveQ t0 q) d k else aliveQ t0 q := by
  unfold aliveQ
  rw [Tlru.fileDl_eq, List.filter_append, List.filter_cons]
  by_cases hd : t0 < d
  · -- whatever is filed behind `(d, k)` is alive: dropping the dead does not move the place of filing
    have hc : (fun a : Time × Key => !decide (t0 < a.1) || decide (a.1 ≤ d)) = fun a => decide (a.1 ≤ d) := by
      funext a
      by_cases ha : a.1 ≤ d
      · simp [ha]
      · simp [ha, Nat.lt_trans hd (Nat.lt_of_not_le ha)]
    rw [if_pos (decide_eq_true hd), if_pos hd, Tlru.fileDl_eq, List.takeWhile_filter, List.dropWhile_filter, hc]
  · rw [if_neg (mt of_decide_eq_true hd), if_neg hd, ← List.filter_append, List.takeWhile_append_dropWhile]

abbrev View := List (Key × Val × Time) × List (Time × Key)

def view (t0 : Time) (s : TlruState) : View := (vE t0 s.ents, aliveQ t0 s.tq)

theorem Rel.view_eq {cap : Nat} {t0 : Time} {s s' : TlruState} (h : Rel cap t0 s s') :
    view t0 s = view t0 s' := Prod.ext h.ents h.tq

/-- How every `*_rel` lemma ends.  `e`, `e'`: result and view afterwards are one function `F` of the view before;
`hi`, `hs`: the primitive keeps `Inv`, and `ttl` and `cap` (`Same`), which the view does not hold. -/
theorem Rel.of_view {α : Type} {cap : Nat} {t0 : Time} {s s' r r' : TlruState} {o o' : α}
    {F : View → α × View} (h : Rel cap t0 s s') (e : (o, view t0 r) = F (view t0 s))
    (e' : (o', view t0 r') = F (view t0 s')) (hi : Tlru.Inv cap r) (hi' : Tlru.Inv cap r')
    (hs : Tlru.Same s r) (hs' : Tlru.Same s' r') : o = o' ∧ Rel cap t0 r r' := by
  have e2 := e.trans ((congrArg F h.view_eq).trans e'.symm)
  exact ⟨congrArg Prod.fst e2, hi, hi', hs.1.trans (h.ttl.trans hs'.1.symm),
    congrArg (fun x => x.2.1) e2, congrArg (fun x => x.2.2) e2⟩

def vrem (V : View) (k : Key) : View := (vdel V.1 k, Tlru.unfile V.2 k)

def vput (t0 : Time) (V : View) (k : Key) (v : Val) (d : Time) : View :=
  if t0 < d then (V.1 ++ [(k, v, d)], Tlru.fileDl V.2 d k) else V

theorem view_removeKey (t0 : Time) (s : TlruState) (k : Key) :
    view t0 (Tlru.removeKey s k) = vrem (view t0 s) k :=
  Prod.ext (vE_delE t0 s.ents k) (aliveQ_unfile t0 s.tq k)

theorem view_write (t0 : Time) (E : List Entry) (Q : List (Time × Key)) (x : Entry) :
    (vE t0 (E ++ [x]), aliveQ t0 (Tlru.fileDl Q x.dl x.key))
      = vput t0 (vE t0 E, aliveQ t0 Q) x.key x.val x.dl := by
  rw [vE_snoc, aliveQ_fileDl, vput]
  by_cases hd : t0 < x.dl
  · rw [if_pos hd, if_pos hd, if_pos hd]
    rfl
  · rw [if_neg hd, if_neg hd, if_neg hd, List.append_nil]

theorem view_pushed (t0 : Time) (s : TlruState) (k : Key) (v : Val) (d : Time) :
    view t0 (Tlru.pushed s k v d) = vput t0 (view t0 s) k v d :=
  view_write t0 s.ents s.tq _

theorem view_update (t0 : Time) (s : TlruState) (e : Entry) (v : Val) (d : Time) :
    view t0 (Tlru.update s e v d) = vput t0 (vrem (view t0 s) e.key) e.key v d :=
  (view_write t0 _ _ _).trans (by rw [vE_delE, aliveQ_unfile]; rfl)

/-- The split every `*_view` proof opens with: `k` is absent; resident and alive at `t0` (the view shows it);
resident and dead at `t0` (the view does not, and only `deadKey` tells this from absent). -/
theorem key_cases {cap : Nat} {s : TlruState} (hinv : Tlru.Inv cap s) (t0 : Time) (k : Key) :
    (getE s.ents k = none ∧ vfind (view t0 s).1 k = none ∧ deadKey t0 s k = false) ∨
    (∃ e, getE s.ents k = some e ∧ t0 < e.dl ∧ vfind (view t0 s).1 k = some (vis e) ∧
      deadKey t0 s k = false) ∨
    (∃ e, getE s.ents k = some e ∧ e.dl ≤ t0 ∧ vfind (view t0 s).1 k = none ∧ deadKey t0 s k = true) := by
  have hv := vfind_vE hinv.nodup t0 k
  unfold deadKey
  cases hg : getE s.ents k with
  | none => rw [hg] at hv; exact Or.inl ⟨rfl, hv, rfl⟩
  | some e =>
    rw [hg, Option.filter_some] at hv
    by_cases hd : t0 < e.dl
    · rw [if_pos (decide_eq_true hd)] at hv
      exact Or.inr (Or.inl ⟨e, rfl, hd, hv, decide_eq_false (Nat.not_le.mpr hd)⟩)
    · rw [if_neg (mt of_decide_eq_true hd)] at hv
      exact Or.inr (Or.inr ⟨e, rfl, Nat.le_of_not_lt hd, hv, decide_eq_true (Nat.le_of_not_lt hd)⟩)

theorem vrem_of_vfind_none {cap : Nat} {t0 : Time} {s : TlruState} (h : Tlru.Inv cap s) {k : Key}
    (hv : vfind (view t0 s).1 k = none) : vrem (view t0 s) k = view t0 s := by
  refine Prod.ext (vdel_of_vfind_none hv) ?_
  show Tlru.unfile (aliveQ t0 s.tq) k = aliveQ t0 s.tq
  unfold Tlru.unfile
  rw [List.filter_eq_self]
  rintro ⟨d, k'⟩ hx
  simp only [aliveQ, List.mem_filter, decide_eq_true_eq] at hx
  obtain ⟨e, he, hd⟩ := (h.tq_iff d k').mp hx.1
  by_cases hk : k' = k
  · subst hk
    have hv' := vfind_vE h.nodup t0 k'
    rw [he, Option.filter_some, if_pos (decide_eq_true (hd ▸ hx.2))] at hv'
    exact nomatch hv'.symm.trans hv
  · simp [hk]

theorem view_removeKey_dead {cap : Nat} {t0 : Time} {s : TlruState} (h : Tlru.Inv cap s) {k : Key}
    (hd : ∀ e, getE s.ents k = some e → e.dl ≤ t0) : view t0 (Tlru.removeKey s k) = view t0 s := by
  rw [view_removeKey]
  rcases key_cases h t0 k with ⟨-, hv, -⟩ | ⟨e, hg, hlt, -, -⟩ | ⟨-, -, -, hv, -⟩
  · exact vrem_of_vfind_none h hv
  · exact absurd (hd e hg) (Nat.not_le.mpr hlt)
  · exact vrem_of_vfind_none h hv

theorem view_not_full {cap : Nat} {t0 : Time} {s : TlruState} (h : Tlru.Inv cap s) {e : Entry}
    (he : e ∈ s.ents) (hd : e.dl ≤ t0) : ¬ (view t0 s).1.length ≥ cap := by
  refine Nat.not_le.mpr (Nat.lt_of_lt_of_le ?_ h.bound)
  simp only [view, vE, List.length_map, aliveE]
  exact List.length_filter_lt_length_iff_exists.mpr ⟨e, he, mt of_decide_eq_true (Nat.not_lt.mpr hd)⟩

theorem view_of_all_alive {cap : Nat} {t0 : Time} {s : TlruState} (h : Tlru.Inv cap s)
    (hall : ∀ e ∈ s.ents, t0 < e.dl) : view t0 s = (s.ents.map vis, s.tq) := by
  refine Prod.ext (congrArg (List.map vis) (List.filter_eq_self.mpr fun e he => decide_eq_true (hall e he)))
    (List.filter_eq_self.mpr ?_)
  rintro ⟨d, k⟩ hx
  obtain ⟨e, he, rfl⟩ := (h.tq_iff d k).mp hx
  exact decide_eq_true (hall e (getE_mem he))

@[simp] theorem removeKey_ttl (s : TlruState) (k : Key) : (Tlru.removeKey s k).ttl = s.ttl := rfl
@[simp] theorem removeKey_cap (s : TlruState) (k : Key) : (Tlru.removeKey s k).cap = s.cap := rfl

def vfind1 (now : Time) (peek : Bool) (k : Key) (V : View) : Option (Val × Nat) × View :=
  match vfind V.1 k with
  | some x =>
    if now < x.2.2 then (some (x.2.1, 0), if peek then V else (vdel V.1 k ++ [x], V.2))
    else (none, vrem V k)
  | none => (none, V)

theorem find1_view {cap : Nat} {t0 now : Time} (h : t0 ≤ now) {s : TlruState} (hinv : Tlru.Inv cap s)
    (k : Key) (peek : Bool) :
    ((Tlru.find1 s now k peek).2, view t0 (Tlru.find1 s now k peek).1) = vfind1 now peek k (view t0 s) := by
  unfold vfind1
  rcases key_cases hinv t0 k with ⟨hg, hv, -⟩ | ⟨e, hg, hd, hv, -⟩ | ⟨e, hg, hd, hv, -⟩
  · rw [hv, Tlru.find1_none hg]
  · rw [hv, Tlru.find1_some hg]
    show _ = if now < e.dl then _ else _
    by_cases hn : now < e.dl
    · rw [if_pos hn, if_pos hn]
      cases peek with
      | true => rfl
      | false =>
        refine congrArg (Prod.mk _) (Prod.ext ?_ rfl)
        show vE t0 (delE s.ents k ++ [e]) = _
        rw [vE_snoc, vE_delE, if_pos hd]
        rfl
    · rw [if_neg hn, if_neg hn, view_removeKey]
  · -- dead at `t0`, so expired at `now`: the lookup reaps it, which does not show
    rw [hv, Tlru.find1_some hg, if_neg (Nat.not_lt.mpr (Nat.le_trans hd h)), view_removeKey,
      vrem_of_vfind_none hinv hv]

theorem erase1_view {cap : Nat} {t0 : Time} {s : TlruState} (hinv : Tlru.Inv cap s) (k : Key)
    (hk : deadKey t0 s k = false) :
    ((Tlru.erase1 s k).2, view t0 (Tlru.erase1 s k).1)
      = ((vfind (view t0 s).1 k).isSome, vrem (view t0 s) k) := by
  rcases key_cases hinv t0 k with ⟨hg, hv, -⟩ | ⟨e, hg, -, hv, -⟩ | ⟨e, -, -, -, hk'⟩
  · rw [Tlru.erase1_none hg, vrem_of_vfind_none hinv hv, hv]
    rfl
  · rw [Tlru.erase1_some hg, view_removeKey, hv]
    rfl
  · rw [hk] at hk'
    cases hk'

theorem clean_view {cap : Nat} {t0 now : Time} {s : TlruState} (hinv : Tlru.Inv cap s) :
    view t0 (Tlru.clean s now).1 = ((view t0 s).1.filter (fun x => decide (now < x.2.2)),
      (view t0 s).2.filter (fun x => decide (now < x.1))) := by
  rw [Tlru.clean_eq_filter hinv.cons]
  refine Prod.ext ?_ ?_
  · simp only [view, vE, aliveE, List.filter_map, List.filter_filter]
    exact congrArg _ (List.filter_congr fun e _ => Bool.and_comm _ _)
  · simp only [view, aliveQ, List.filter_filter]
    exact List.filter_congr fun x _ => Bool.and_comm _ _

def vprune (now : Time) (V : View) : View :=
  match V.2, V.1 with
  | (d, k) :: _, x :: _ => vrem V (if d ≤ now then k else x.1)
  | _, _ => V

/-- The state a creating insert writes into (after `do_prune` if the cache is full), on views.  The cache
is full with no dead resident iff the view has `cap` entries: with a dead resident the view is shorter
than the cache, which holds at most `cap` entries. -/
def vpre (cap : Nat) (now : Time) (V : View) : View := if V.1.length ≥ cap then vprune now V else V

/-- `w`: a key with no live entry gets written — the call may create, or finds a dead entry to overwrite.
This is all an insert sees of a state beyond its view. -/
def vins (cap : Nat) (t0 now : Time) (w : Bool) (k : Key) (v : Val) (a : Allow) (d : Time) (V : View) :
    Bool × View :=
  match vfind V.1 k with
  | some x =>
    if a.upd = true ∨ (a.ins = true ∧ x.2.2 ≤ now) then (true, vput t0 (vrem V k) k v d) else (false, V)
  | none => if w = true then (true, vput t0 (vpre cap now V) k v d) else (false, V)

theorem prune_view {cap : Nat} {t0 : Time} {s : TlruState} (hinv : Tlru.Inv cap s)
    (hall : ∀ e ∈ s.ents, t0 < e.dl) (now : Time) : view t0 (Tlru.prune s now) = vprune now (view t0 s) := by
  have hV := view_of_all_alive hinv hall
  unfold vprune
  cases hq : s.tq with
  | nil => rw [Tlru.prune_nil hq, hV, hq]
  | cons x rest =>
    obtain ⟨d, k⟩ := x
    cases he : s.ents with
    | nil => exact absurd (hinv.cons.length_eq.trans (congrArg List.length he)) (by rw [hq]; simp)
    | cons e0 t => rw [Tlru.prune_cons hq he, view_removeKey, hV, hq, he]; rfl

theorem pre_view {cap : Nat} {t0 now : Time} (h : t0 ≤ now) {s : TlruState} (hinv : Tlru.Inv cap s) :
    view t0 (if s.ents.length ≥ s.cap then Tlru.prune s now else s) = vpre cap now (view t0 s) := by
  unfold vpre
  rw [hinv.cap_eq]
  by_cases hd : ∃ e ∈ s.ents, e.dl ≤ t0
  · -- a dead resident: if the cache is full, `do_prune` evicts a dead entry, which does not show
    rw [if_neg (hd.elim fun e he => view_not_full hinv he.1 he.2)]
    by_cases hf : s.ents.length ≥ cap
    · obtain ⟨w, e', hg, hd', hp⟩ := Tlru.prune_expired hinv h hd
      rw [if_pos hf, hp]
      exact view_removeKey_dead hinv fun e he => Option.some.inj (hg.symm.trans he) ▸ hd'
    · rw [if_neg hf]
  · have hall : ∀ e ∈ s.ents, t0 < e.dl := fun e he => Nat.lt_of_not_le (fun hle => hd ⟨e, he, hle⟩)
    rw [view_of_all_alive hinv hall, List.length_map, ← view_of_all_alive hinv hall]
    by_cases hf : s.ents.length ≥ cap
    · rw [if_pos hf, if_pos hf, prune_view hinv hall now]
    · rw [if_neg hf, if_neg hf]

theorem insert1_view {cap : Nat} {t0 now : Time} (h : t0 ≤ now) {s : TlruState} (hinv : Tlru.Inv cap s)
    (k : Key) (v : Val) (a : Allow) (d : Time) :
    ((Tlru.insert1 s now k v a d).2, view t0 (Tlru.insert1 s now k v a d).1)
      = vins cap t0 now (a.ins || deadKey t0 s k) k v a d (view t0 s) := by
  rcases key_cases hinv t0 k with ⟨hg, hv, hk⟩ | ⟨e, hg, hd, hv, -⟩ | ⟨e, hg, hd, hv, hk⟩
  · rw [Tlru.insert1_none hg]
    simp only [vins, hv, hk, Bool.or_false]
    by_cases ha : a.ins = true
    · rw [if_pos ha, if_pos ha, view_pushed, pre_view h hinv]
    · rw [if_neg ha, if_neg ha]
  · obtain rfl := getE_key hg
    rw [Tlru.insert1_some hg]
    simp only [vins, hv, vis]
    by_cases hc : a.upd = true ∨ (a.ins = true ∧ e.dl ≤ now)
    · rw [if_pos hc, if_pos hc, view_update]
    · rw [if_neg hc, if_neg hc]
  · -- a dead entry is overwritten whatever the mode; the cache holds it, so the view is not full
    obtain rfl := getE_key hg
    have hc : a.upd = true ∨ (a.ins = true ∧ e.dl ≤ now) := by
      cases a with
      | insert => exact Or.inr ⟨rfl, Nat.le_trans hd h⟩
      | update => exact Or.inl rfl
      | insertOrUpdate => exact Or.inl rfl
    rw [Tlru.insert1_some hg, if_pos hc, view_update, vrem_of_vfind_none hinv hv]
    simp only [vins, hv, hk, Bool.or_true, if_true, vpre, if_neg (view_not_full hinv (getE_mem hg) hd)]

/-! `deadKey` after a primitive: how the range forms carry "not `touchy`" from one key to the next. -/

theorem deadKey_removeKey (t0 : Time) (s : TlruState) (k k' : Key) :
    deadKey t0 (Tlru.removeKey s k) k' = if k' = k then false else deadKey t0 s k' := by
  unfold deadKey
  show (match getE (delE s.ents k) k' with | some e => decide (e.dl ≤ t0) | none => false) = _
  by_cases hk : k' = k
  · rw [if_pos hk, hk, getE_delE_self]
  · rw [if_neg hk, getE_delE_ne hk]

theorem deadKey_erase1_of_false {t0 : Time} {s : TlruState} {k k' : Key} (h : deadKey t0 s k' = false) :
    deadKey t0 (Tlru.erase1 s k).1 k' = false := by
  cases hg : getE s.ents k with
  | none => rw [Tlru.erase1_none hg]; exact h
  | some e =>
    rw [Tlru.erase1_some hg, deadKey_removeKey]
    split
    · rfl
    · exact h

theorem deadKey_insert1_upd (t0 : Time) (s : TlruState) (now : Time) (k : Key) (v : Val) {a : Allow}
    (ha : a.ins = false) (d : Time) (k' : Key) :
    deadKey t0 (Tlru.insert1 s now k v a d).1 k' =
      if k' = k ∧ (Tlru.insert1 s now k v a d).2 = true then decide (d ≤ t0) else deadKey t0 s k' := by
  have hu : a.upd = true := by
    cases a with
    | update => rfl
    | insert => cases ha
    | insertOrUpdate => cases ha
  cases hg : getE s.ents k with
  | none =>
    rw [Tlru.insert1_none hg, ha]
    simp
  | some e =>
    rw [Tlru.insert1_some hg, if_pos (Or.inl hu)]
    have hk := getE_key hg
    simp only [and_true]
    by_cases hkk : k' = k
    · subst hkk
      simp only [if_true, deadKey, Tlru.update, getE_append_single, hk, getE_delE_self, Option.none_or]
    · have hne : ¬ k = k' := fun h => hkk h.symm
      simp only [hkk, if_false, deadKey, Tlru.update, getE_append_single, hk, getE_delE_ne hkk, hne,
        Option.or_none]

section generic
variable {c : Core TlruState} {f : Nat → Time → Nat → Time}

/-- what the two cores have in common; `f`: the deadline a write carries, from the configured TTL, the clock
reading and the TTL argument of the call.  Not `Tlru.Like`: there the deadline `c.dlOf s now ttl` may depend on
all of `s` and `clear` / `updateTtl` are known by their `.ents` only; here it depends on `s.ttl`, which `Rel`
equates, and the two keep `Rel`. -/
structure TtlCore (c : Core TlruState) (f : Nat → Time → Nat → Time) : Prop where
  pre : ∀ s now, c.pre s now = s
  find1 : c.find1 = Tlru.find1
  erase1 : c.erase1 = Tlru.erase1
  clean : c.clean = Tlru.clean
  age : ∀ s now, c.age s now = (s, 0)
  capacity : ∀ s, c.capacity s = s.cap
  insert1 : ∀ s now k v a ttl, c.insert1 s now k v a ttl = Tlru.insert1 s now k v a (f s.ttl now ttl)
  clear : ∀ cap t0 s s', Rel cap t0 s s' →
    Rel cap t0 (if c.hasClear then c.clear s else s) (if c.hasClear then c.clear s' else s')
  updateTtl : ∀ cap t0 s s' t, Rel cap t0 s s' → Rel cap t0 (c.updateTtl s t) (c.updateTtl s' t)

variable {cap : Nat} {t0 now : Time} {s s' : TlruState}

theorem find1_rel (H : TtlCore c f) (h : t0 ≤ now) (hr : Rel cap t0 s s') (k : Key) (peek : Bool) :
    (c.find1 s now k peek).2 = (c.find1 s' now k peek).2 ∧
      Rel cap t0 (c.find1 s now k peek).1 (c.find1 s' now k peek).1 := by
  rw [H.find1]
  exact hr.of_view (find1_view h hr.inv k peek) (find1_view h hr.inv' k peek)
    (Tlru.find1_spec hr.inv now k peek).1 (Tlru.find1_spec hr.inv' now k peek).1
    (Tlru.find1_same s now k peek) (Tlru.find1_same s' now k peek)

theorem erase1_rel (H : TtlCore c f) (hr : Rel cap t0 s s') (k : Key)
    (hk : deadKey t0 s k = false ∧ deadKey t0 s' k = false) :
    (c.erase1 s k).2 = (c.erase1 s' k).2 ∧ Rel cap t0 (c.erase1 s k).1 (c.erase1 s' k).1 := by
  rw [H.erase1]
  -- `erase1_spec` at reading 0: only its `Inv` half is used, which no reading enters
  exact hr.of_view (F := fun V => ((vfind V.1 k).isSome, vrem V k)) (erase1_view hr.inv k hk.1)
    (erase1_view hr.inv' k hk.2) (Tlru.erase1_spec hr.inv 0 k).1 (Tlru.erase1_spec hr.inv' 0 k).1
    (Tlru.erase1_same s k) (Tlru.erase1_same s' k)

theorem clean_rel (H : TtlCore c f) (hr : Rel cap t0 s s') (now : Time) :
    Rel cap t0 (c.clean s now).1 (c.clean s' now).1 := by
  rw [H.clean]
  exact (hr.of_view (o := ()) (o' := ())
    (F := fun V => ((), V.1.filter (fun x => decide (now < x.2.2)), V.2.filter (fun x => decide (now < x.1))))
    (congrArg (Prod.mk ()) (clean_view hr.inv)) (congrArg (Prod.mk ()) (clean_view hr.inv'))
    (Tlru.clean_spec hr.inv now).1 (Tlru.clean_spec hr.inv' now).1
    (Tlru.clean_same s now) (Tlru.clean_same s' now)).2

theorem insert1_rel (H : TtlCore c f) (h : t0 ≤ now) (hr : Rel cap t0 s s') (k : Key) (v : Val)
    (a : Allow) (ttl : Nat) (hupd : a.ins = false → deadKey t0 s k = deadKey t0 s' k) :
    (c.insert1 s now k v a ttl).2 = (c.insert1 s' now k v a ttl).2 ∧
      Rel cap t0 (c.insert1 s now k v a ttl).1 (c.insert1 s' now k v a ttl).1 := by
  have hw : (a.ins || deadKey t0 s' k) = (a.ins || deadKey t0 s k) := by
    cases ha : a.ins with
    | true => rfl
    | false => rw [hupd ha]
  have e' := insert1_view h hr.inv' k v a (f s.ttl now ttl)
  rw [hw] at e'
  rw [H.insert1, H.insert1, ← hr.ttl]
  exact hr.of_view (insert1_view h hr.inv k v a _) e'
    (Tlru.insert1_spec hr.inv now k v a _).1 (Tlru.insert1_spec hr.inv' now k v a _).1
    (Tlru.insert1_same s now k v a _) (Tlru.insert1_same s' now k v a _)

theorem insertMany_rel (H : TtlCore c f) (h : t0 ≤ now) (a : Allow)
    (xs : List (Key × Val × Nat)) : ∀ (s s' : TlruState), Rel cap t0 s s' →
    (a.ins = false → ∀ x ∈ xs, deadKey t0 s x.1 = deadKey t0 s' x.1) →
    (c.insertMany s now a xs).2 = (c.insertMany s' now a xs).2 ∧
      Rel cap t0 (c.insertMany s now a xs).1 (c.insertMany s' now a xs).1 := by
  induction xs with
  | nil => intro s s' hr _; exact ⟨rfl, hr⟩
  | cons x xs ih =>
    obtain ⟨k, v, ttl⟩ := x
    intro s s' hr hupd
    obtain ⟨r1, r2⟩ := insert1_rel H h hr k v a ttl (fun ha => hupd ha (k, v, ttl) (List.mem_cons_self ..))
    obtain ⟨i1, i2⟩ := ih _ _ r2 (by
      intro ha x hx
      rw [H.insert1, H.insert1, ← hr.ttl] at r1 ⊢
      rw [deadKey_insert1_upd t0 s now k v ha, deadKey_insert1_upd t0 s' now k v ha, ← r1,
        hupd ha x (List.mem_cons_of_mem _ hx)])
    refine ⟨?_, i2⟩
    -- one round of `Core.insertMany`, by unfolding
    show (if (c.insert1 s now k v a ttl).2 then 1 else 0) + _ = (if (c.insert1 s' now k v a ttl).2 then 1 else 0) + _
    rw [r1, i1]

theorem findMany_rel (H : TtlCore c f) (h : t0 ≤ now) (peek : Bool)
    (ks : List Key) : ∀ (s s' : TlruState), Rel cap t0 s s' →
    (c.findMany s now peek ks).2 = (c.findMany s' now peek ks).2 ∧
      Rel cap t0 (c.findMany s now peek ks).1 (c.findMany s' now peek ks).1 := by
  induction ks with
  | nil => intro s s' hr; exact ⟨rfl, hr⟩
  | cons k ks ih =>
    intro s s' hr
    obtain ⟨r1, r2⟩ := find1_rel H h hr k peek
    obtain ⟨i1, i2⟩ := ih _ _ r2
    refine ⟨?_, i2⟩
    show (c.find1 s now k peek).2.map (·.1) :: _ = (c.find1 s' now k peek).2.map (·.1) :: _
    rw [r1, i1]

theorem eraseMany_rel (H : TtlCore c f) (ks : List Key) :
    ∀ (s s' : TlruState), Rel cap t0 s s' →
    (∀ k ∈ ks, deadKey t0 s k = false ∧ deadKey t0 s' k = false) →
    (c.eraseMany s ks).2 = (c.eraseMany s' ks).2 ∧
      Rel cap t0 (c.eraseMany s ks).1 (c.eraseMany s' ks).1 := by
  induction ks with
  | nil => intro s s' hr _; exact ⟨rfl, hr⟩
  | cons k ks ih =>
    intro s s' hr hd
    obtain ⟨r1, r2⟩ := erase1_rel H hr k (hd k (List.mem_cons_self ..))
    obtain ⟨i1, i2⟩ := ih _ _ r2 (fun k' hk' => by
      rw [H.erase1]
      exact (hd k' (List.mem_cons_of_mem _ hk')).imp deadKey_erase1_of_false deadKey_erase1_of_false)
    refine ⟨?_, i2⟩
    show (if (c.erase1 s k).2 then 1 else 0) + _ = (if (c.erase1 s' k).2 then 1 else 0) + _
    rw [r1, i1]

theorem step_generic (H : TtlCore c f) (cap : Nat) (t0 now : Time) (h : t0 ≤ now) (s s' : TlruState)
    (op : Op) (hr : Rel cap t0 s s') (hb : touchy t0 s s' op = false) :
    sameOut op (c.step s now op).2 (c.step s' now op).2 ∧
      Rel cap t0 (c.step s now op).1 (c.step s' now op).1 := by
  -- the keyed forms act on the state after the prologue, which for these cores is the state itself
  obtain ⟨hp, hbp⟩ : Rel cap t0 (c.pre s now) (c.pre s' now) ∧
      touchy t0 (c.pre s now) (c.pre s' now) op = false := by
    rw [H.pre, H.pre]
    exact ⟨hr, hb⟩
  cases op with
  | insert k v a ttl =>
    refine (insert1_rel H h hp k v a ttl fun ha => ?_).imp (congrArg Out.bool) id
    cases a with
    | update =>
      obtain ⟨h1, h2⟩ := Bool.or_eq_false_iff.mp hbp
      rw [h1, h2]
    | insert => cases ha
    | insertOrUpdate => cases ha
  | insertRange xs a =>
    refine (insertMany_rel H h a xs _ _ hp fun ha x hx => ?_).imp (congrArg Out.nat) id
    cases a with
    | update =>
      obtain ⟨h1, h2⟩ := Bool.or_eq_false_iff.mp (Bool.eq_false_iff.mpr (List.any_eq_false.mp hbp x hx))
      rw [h1, h2]
    | insert => cases ha
    | insertOrUpdate => cases ha
  | find k peek =>
    exact (find1_rel H h hp k peek).imp (congrArg fun (o : Option (Val × Nat)) => Out.opt (o.map Prod.fst)) id
  | findRange ks peek => exact (findMany_rel H h peek ks _ _ hp).imp (congrArg Out.opts) id
  | findCount k peek => exact (find1_rel H h hp k peek).imp (congrArg Out.optc) id
  | erase k => exact (erase1_rel H hp k (Bool.or_eq_false_iff.mp hbp)).imp (congrArg Out.bool) id
  | eraseRange ks =>
    exact (eraseMany_rel H ks _ _ hp fun k hk =>
      Bool.or_eq_false_iff.mp (Bool.eq_false_iff.mpr (List.any_eq_false.mp hbp k hk))).imp (congrArg Out.nat) id
  | clear => exact ⟨rfl, H.clear cap t0 s s' hr⟩
  | clean => exact ⟨trivial, clean_rel H hr now⟩
  | age =>
    show Out.nat (c.age s now).2 = Out.nat (c.age s' now).2 ∧ Rel cap t0 (c.age s now).1 (c.age s' now).1
    rw [H.age, H.age]
    exact ⟨rfl, hr⟩
  | updateTtl t => exact ⟨rfl, H.updateTtl cap t0 s s' t hr⟩
  | size => exact ⟨trivial, hr⟩
  | empty => exact ⟨trivial, hr⟩
  | capacity =>
    refine ⟨congrArg Out.nat ?_, hr⟩
    rw [H.capacity, H.capacity, hr.inv.cap_eq, hr.inv'.cap_eq]

end generic

theorem _root_.Verif.Tlru.ttlCore : TtlCore Tlru.core (fun _ now ttl => now + ttl * msNs) where
  pre _ _ := rfl
  find1 := rfl
  erase1 := rfl
  clean := rfl
  age _ _ := rfl
  capacity _ := rfl
  insert1 _ _ _ _ _ _ := rfl
  clear _ _ _ _ hr := hr
  updateTtl _ _ _ _ _ hr := hr

theorem _root_.Verif.Utlru.ttlCore : TtlCore Utlru.core (fun ttl now _ => now + ttl) where
  pre _ _ := rfl
  find1 := rfl
  erase1 := rfl
  clean := rfl
  age _ _ := rfl
  capacity _ := rfl
  insert1 _ _ _ _ _ _ := rfl
  clear _ _ _ _ hr := ⟨hr.inv.cleared, hr.inv'.cleared, hr.ttl, rfl, rfl⟩
  updateTtl _ _ _ _ _ hr := ⟨hr.inv.with_ttl _, hr.inv'.with_ttl _, rfl, hr.ents, hr.tq⟩

/-- a state and what a no-effect call at `t0` leaves of it are related (links with `C19_tlru`) -/
theorem rel_of_removed (cap : Nat) (t0 : Time) (s : TlruState) (hinv : Tlru.Inv cap s) (ks : List Key)
    (hk : ∀ k ∈ ks, ∃ e, getE s.ents k = some e ∧ e.dl ≤ t0) :
    Rel cap t0 s (ks.foldl Tlru.removeKey s) := by
  suffices H : ∀ (ks : List Key) (s' : TlruState), Rel cap t0 s s' →
      (∀ k ∈ ks, ∀ e, getE s'.ents k = some e → e.dl ≤ t0) → Rel cap t0 s (ks.foldl Tlru.removeKey s') by
    refine H ks s ⟨hinv, hinv, rfl, rfl, rfl⟩ ?_
    intro k hks e he
    obtain ⟨e', he', hd⟩ := hk k hks
    rw [he] at he'; cases he'; exact hd
  intro ks
  induction ks with
  | nil => intro s' hr _; exact hr
  | cons k ks ih =>
    intro s' hr hd
    simp only [List.foldl_cons]
    apply ih
    · have e := view_removeKey_dead hr.inv' (hd k List.mem_cons_self)
      exact ⟨hr.inv, hr.inv'.removeKey k, hr.ttl, hr.ents.trans (congrArg Prod.fst e).symm,
        hr.tq.trans (congrArg Prod.snd e).symm⟩
    · intro k' hk' e he
      exact hd k' (List.mem_cons_of_mem _ hk') e (Tlru.getE_of_getE_removeKey he)

/-- **C19 (continuation), tlru_cache**: one later call -/
theorem step_tlru (cap : Nat) (t0 now : Time) (h : t0 ≤ now) (s s' : TlruState) (op : Op)
    (hr : Rel cap t0 s s') (hb : touchy t0 s s' op = false) :
    sameOut op (Tlru.core.step s now op).2 (Tlru.core.step s' now op).2 ∧
    Rel cap t0 (Tlru.core.step s now op).1 (Tlru.core.step s' now op).1 :=
  step_generic Tlru.ttlCore cap t0 now h s s' op hr hb

/-- **C19 (continuation), utlru_cache**: one later call -/
theorem step_utlru (cap : Nat) (t0 now : Time) (h : t0 ≤ now) (s s' : TlruState) (op : Op)
    (hr : Rel cap t0 s s') (hb : touchy t0 s s' op = false) :
    sameOut op (Utlru.core.step s now op).2 (Utlru.core.step s' now op).2 ∧
    Rel cap t0 (Utlru.core.step s now op).1 (Utlru.core.step s' now op).1 :=
  step_generic Utlru.ttlCore cap t0 now h s s' op hr hb

/-- every call of the history reads a clock ≥ `t0` and is not `touchy` for the two states it meets -/
def quiet (c : Core TlruState) (t0 : Time) : TlruState → TlruState → List (Time × Op) → Prop
  | _, _, [] => True
  | s, s', (t, op) :: rest =>
    t0 ≤ t ∧ touchy t0 s s' op = false ∧ quiet c t0 (c.step s t op).1 (c.step s' t op).1 rest

def sameOuts : List (Time × Op) → List Out → List Out → Prop
  | [], [], [] => True
  | (_, op) :: rest, a :: as, b :: bs => sameOut op a b ∧ sameOuts rest as bs
  | _, _, _ => False

theorem run_generic {c : Core TlruState} {f : Nat → Time → Nat → Time} (H : TtlCore c f) (cap : Nat)
    (t0 : Time) (hist : List (Time × Op)) : ∀ (s s' : TlruState), Rel cap t0 s s' →
    quiet c t0 s s' hist →
    sameOuts hist (c.run s hist).2 (c.run s' hist).2 ∧ Rel cap t0 (c.run s hist).1 (c.run s' hist).1 := by
  induction hist with
  | nil => intro s s' hr _; exact ⟨trivial, hr⟩
  | cons x rest ih =>
    obtain ⟨t, op⟩ := x
    intro s s' hr hq
    obtain ⟨ht, hb, hq'⟩ := hq
    obtain ⟨r1, r2⟩ := step_generic H cap t0 t ht s s' op hr hb
    obtain ⟨i1, i2⟩ := ih _ _ r2 hq'
    exact ⟨⟨r1, i1⟩, i2⟩

/-- **C19 (continuation), tlru_cache**: every later history without a `touchy` call -/
theorem run_tlru (cap : Nat) (t0 : Time) (s s' : TlruState) (hist : List (Time × Op))
    (hr : Rel cap t0 s s') (hq : quiet Tlru.core t0 s s' hist) :
    sameOuts hist (Tlru.core.run s hist).2 (Tlru.core.run s' hist).2 ∧
    Rel cap t0 (Tlru.core.run s hist).1 (Tlru.core.run s' hist).1 :=
  run_generic Tlru.ttlCore cap t0 hist s s' hr hq

/-- **C19 (continuation), utlru_cache**: every later history without a `touchy` call -/
theorem run_utlru (cap : Nat) (t0 : Time) (s s' : TlruState) (hist : List (Time × Op))
    (hr : Rel cap t0 s s') (hq : quiet Utlru.core t0 s s' hist) :
    sameOuts hist (Utlru.core.run s hist).2 (Utlru.core.run s' hist).2 ∧
    Rel cap t0 (Utlru.core.run s hist).1 (Utlru.core.run s' hist).1 :=
  run_generic Utlru.ttlCore cap t0 hist s s' hr hq

end Verif.Bisim
