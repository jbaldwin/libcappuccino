import Verif.PropertiesAnyClock
/-!
# The replacement-policy property theorems (C10–C16), stated over whole histories with non-decreasing clock readings

The forms under `steady_clock`'s contract (`TimesFrom`).  Only C14 uses the hypothesis: the age list of
lfuda_cache is sorted by stamp only if the clock never goes back.  The others are the special cases of the
`_anyclock` forms of `PropertiesAnyClock.lean`.
-/
namespace Verif
open Verif.Spec

/-- **C10 (lru_cache)**: `C10_lru_history_anyclock` under `steady_clock`'s contract. -/
theorem C10_lru_history (cap : Nat) (hcap : 0 < cap) (ops : List (Time × Op)) (t0 : Time) (ht : TimesFrom t0 ops) :
    ∃ tr : STrace RecState, tr.atoms = (lruV cap hcap).history ops ∧
      ∀ p q s now k v al d, tr = p ++ (s, now, .ins k v al d true) :: q → k ∉ keys s.ents → cap ≤ s.ents.length →
        ∃ s' w, CStep Lru.core s now (.ins k v al d true) s' ∧
          firstIn (useOrder p) (keys s.ents) = some w ∧ Evicts (keys s.ents) (keys s'.ents) k w :=
  C10_lru_history_anyclock cap hcap ops

/-- **C13 (mru_cache)**: `C13_mru_history_anyclock` under `steady_clock`'s contract. -/
theorem C13_mru_history (cap : Nat) (hcap : 0 < cap) (ops : List (Time × Op)) (t0 : Time) (ht : TimesFrom t0 ops) :
    ∃ tr : STrace RecState, tr.atoms = (mruV cap hcap).history ops ∧
      ∀ p q s now k v al d, tr = p ++ (s, now, .ins k v al d true) :: q → k ∉ keys s.ents → cap ≤ s.ents.length →
        ∃ s' w, CStep Mru.core s now (.ins k v al d true) s' ∧
          lastIn (useOrder p) (keys s.ents) = some w ∧ Evicts (keys s.ents) (keys s'.ents) k w ∧
          lastIn (useOrder (p ++ [(s, now, .ins k v al d true)])) (keys s'.ents) = some k :=
  C13_mru_history_anyclock cap hcap ops

/-- **C12 (fifo_cache)**: `C12_fifo_history_anyclock` under `steady_clock`'s contract. -/
theorem C12_fifo_history (cap : Nat) (hcap : 0 < cap) (ops : List (Time × Op)) (t0 : Time) (ht : TimesFrom t0 ops) :
    ∃ tr : STrace FifoState, tr.atoms = (fifoV cap hcap).history ops ∧
      ∀ p q s now k v al d, tr = p ++ (s, now, .ins k v al d true) :: q → k ∉ keys s.ents → cap ≤ s.ents.length →
        ∃ s' w, CStep Fifo.core s now (.ins k v al d true) s' ∧
          firstIn (bornOrder (fun s => keys s.ents) p) (keys s.ents) = some w ∧
          Evicts (keys s.ents) (keys s'.ents) k w :=
  C12_fifo_history_anyclock cap hcap ops

/-- **C11 (lfu_cache)**: `C11_lfu_history_anyclock` under `steady_clock`'s contract. -/
theorem C11_lfu_history (cap : Nat) (hcap : 0 < cap) (ops : List (Time × Op)) (t0 : Time) (ht : TimesFrom t0 ops) :
    ∃ tr : STrace LfuState, tr.atoms = (lfuV cap hcap).history ops ∧
      (∀ p q s now k pk v n, tr = p ++ (s, now, .look k pk (some (v, n))) :: q →
        n = useCount (fun s => keys s.ents) (p ++ [(s, now, .look k pk (some (v, n)))]) k) ∧
      (∀ p q s now k v al d, tr = p ++ (s, now, .ins k v al d true) :: q → k ∉ keys s.ents → cap ≤ s.ents.length →
        ∃ s' w, CStep Lfu.core s now (.ins k v al d true) s' ∧ Evicts (keys s.ents) (keys s'.ents) k w ∧
          ∀ u ∈ keys s.ents, useCount (fun s => keys s.ents) p w ≤ useCount (fun s => keys s.ents) p u) :=
  C11_lfu_history_anyclock cap hcap ops

/-- **C14 (and C11 for lfuda_cache)**: `C14_lfuda_count`, `C14_lfuda_age` and `C14_lfuda_victim` over whole
histories, read as the theorems of `PropertiesAnyClock.lean` are. -/
theorem C14_lfuda_history (cap tickMs num den : Nat) (hcap : 0 < cap) (htick : 0 < tickMs)
    (ops : List (Time × Op)) (t0 : Time) (ht : TimesFrom t0 ops) :
    ∃ tr : STrace LfudaState, tr.atoms = (lfudaV cap hcap tickMs num den).history ops ∧
      (∀ p q s now k pk v n, tr = p ++ (s, now, .look k pk (some (v, n))) :: q →
        n = (lfudaGhost cap tickMs num den (p ++ [(s, now, .look k pk (some (v, n)))])).cnt k) ∧
      (∀ p q s now n, tr = p ++ (s, now, .age n) :: q →
        n = ((lfudaGhost cap tickMs num den p).ageAt (keys s.ents) (tickMs * msNs) num den now).2) ∧
      (∀ p q s now k v al d, tr = p ++ (s, now, .ins k v al d true) :: q → k ∉ keys s.ents → cap ≤ s.ents.length →
        ∃ s' w, CStep Lfuda.core s now (.ins k v al d true) s' ∧ Evicts (keys s.ents) (keys s'.ents) k w ∧
          ∀ u ∈ keys s.ents,
            ((lfudaGhost cap tickMs num den p).ageAt (keys s.ents) (tickMs * msNs) num den now).1.cnt w ≤
            ((lfudaGhost cap tickMs num den p).ageAt (keys s.ents) (tickMs * msNs) num den now).1.cnt u) := by
  obtain ⟨tr, hrun, hat, hmono⟩ := Lfuda.core.steps_of_history (Lfuda.init cap tickMs num den) ops t0 ht
  refine ⟨tr, hat, ?_, ?_, ?_⟩
  · intro p q s now k pk v n heq
    subst heq
    obtain ⟨hp, s', hs, _⟩ := hrun.step_at
    exact C14_lfuda_count cap tickMs num den hp hs (STrace.monotone_prefix hmono)
  · intro p q s now n heq
    subst heq
    obtain ⟨hp, s', hs, _⟩ := hrun.step_at
    exact C14_lfuda_age cap tickMs num den hp hs (STrace.monotone_prefix hmono)
  · intro p q s now k v al d heq hnew hfull
    subst heq
    obtain ⟨hp, s', hs, _⟩ := hrun.step_at
    obtain ⟨w, h1, h2⟩ := C14_lfuda_victim cap tickMs num den hcap hp hs (STrace.monotone_prefix hmono) hnew hfull
    exact ⟨s', w, hs, h1, h2⟩

/-- **C15 (rr_cache)**: `C15_rr_history_anyclock` under `steady_clock`'s contract. -/
theorem C15_rr_history (cap : Nat) (hcap : 0 < cap) (rnd : List Nat) (hr : ∀ r ∈ rnd, r < cap)
    (ops : List (Time × Op)) (t0 : Time) (ht : TimesFrom t0 ops) :
    ∃ tr : STrace RrState, tr.atoms = (rrV cap hcap rnd hr).history ops ∧
      ∀ p q s now k v al d, tr = p ++ (s, now, .ins k v al d true) :: q → k ∉ keys s.ents → cap ≤ s.ents.length →
        ∃ s' e, CStep Rr.core s now (.ins k v al d true) s' ∧
          Rr.atSlot s.ents (s.rnd.headD 0) = some e ∧ Evicts (keys s.ents) (keys s'.ents) k e.key ∧
          s'.rnd = s.rnd.tail ∧ s.rnd.headD 0 < cap ∧
          (∀ r, r < cap → ∃ e, e ∈ s.ents ∧ e.slot = r ∧ ∀ e' ∈ s.ents, e'.slot = r → e' = e) ∧
          (∀ e ∈ s.ents, e.slot < cap) :=
  C15_rr_history_anyclock cap hcap rnd hr ops

/-- **C10 and C16 (tlru_cache)**: `C10_C16_tlru_history_anyclock` under `steady_clock`'s contract. -/
theorem C10_C16_tlru_history (cap : Nat) (hcap : 0 < cap) (ops : List (Time × Op)) (t0 : Time) (ht : TimesFrom t0 ops) :
    ∃ tr : STrace TlruState, tr.atoms = (tlruV cap hcap).history ops ∧
      ∀ p q s now k v al d, tr = p ++ (s, now, .ins k v al d true) :: q → k ∉ keys s.ents → cap ≤ s.ents.length →
        ∃ s', CStep Tlru.core s now (.ins k v al d true) s' ∧
          -- C10: nothing has expired ⇒ least recently used
          ((∀ e ∈ s.ents, now < e.dl) →
            ∃ w, firstIn (useOrder p) (keys s.ents) = some w ∧ Evicts (keys s.ents) (keys s'.ents) k w) ∧
          -- C16: something has expired ⇒ an expired entry goes, every live one stays
          ((∃ e ∈ s.ents, e.dl ≤ now) →
            ∃ w e, getE s.ents w = some e ∧ e.dl ≤ now ∧ Evicts (keys s.ents) (keys s'.ents) k w ∧
              ∀ u e', getE s.ents u = some e' → now < e'.dl → getE s'.ents u = some e') :=
  C10_C16_tlru_history_anyclock cap hcap ops

/-- **C10 and C16 (utlru_cache)**: `C10_C16_utlru_history_anyclock` under `steady_clock`'s contract. -/
theorem C10_C16_utlru_history (cap : Nat) (hcap : 0 < cap) (ttlMs : Nat) (ops : List (Time × Op)) (t0 : Time)
    (ht : TimesFrom t0 ops) :
    ∃ tr : STrace TlruState, tr.atoms = (utlruV cap hcap ttlMs).history ops ∧
      ∀ p q s now k v al d, tr = p ++ (s, now, .ins k v al d true) :: q → k ∉ keys s.ents → cap ≤ s.ents.length →
        ∃ s', CStep Utlru.core s now (.ins k v al d true) s' ∧
          ((∀ e ∈ s.ents, now < e.dl) →
            ∃ w, firstIn (useOrder p) (keys s.ents) = some w ∧ Evicts (keys s.ents) (keys s'.ents) k w) ∧
          ((∃ e ∈ s.ents, e.dl ≤ now) →
            ∃ w e, getE s.ents w = some e ∧ e.dl ≤ now ∧ Evicts (keys s.ents) (keys s'.ents) k w ∧
              ∀ u e', getE s.ents u = some e' → now < e'.dl → getE s'.ents u = some e') :=
  C10_C16_utlru_history_anyclock cap hcap ttlMs ops

end Verif
