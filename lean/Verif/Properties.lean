import Verif.Spec.Props
import Verif.Spec.Lift
import Verif.Proofs.Refine.Rec
import Verif.Proofs.Refine.Fifo
import Verif.Proofs.Refine.Rr
import Verif.Proofs.Refine.Lfu
import Verif.Proofs.Refine.Lfuda
import Verif.Proofs.Refine.Tlru
import Verif.Proofs.Refine.UtMap
/-!
# The property theorems

Statements, with proofs that only assemble lemmas proved elsewhere, so that a statement is never
quietly weakened to make a proof pass.  Every theorem is about the models that the driver
executes against the implementation (`Model/*.lean`); every check run prints the axioms of the theorems
it rests on (`#print axioms`, `tools/check.py`).

A `Verified` bundles one container model with its proof of refinement to the reference semantics.
-/
namespace Verif
open Verif.Spec

structure Verified (σ : Type) where
  c : Core σ
  fl : Flavor
  cap : Nat
  Inv : Time → σ → Prop
  abs : σ → A
  R : Refines c fl cap Inv abs
  s0 : σ
  inv0 : ∀ t, Inv t s0
  abs0 : abs s0 = A.empty

namespace Verified
variable {σ : Type} (V : Verified σ)

/-- the atoms of a history from the fresh container -/
def history (ops : List (Time × Op)) : List (Time × Atom) := (V.c.runA V.s0 ops).2.2

theorem outputs_eq (ops : List (Time × Op)) : (V.c.runA V.s0 ops).2.1 = (V.c.run V.s0 ops).2 :=
  (V.c.runA_eq V.s0 ops).2

/-- **Refinement.** Every history with non-decreasing clock readings is a run of the reference
semantics from the empty store. -/
theorem history_is_run (ops : List (Time × Op)) (t0 : Time) (ht : TimesFrom t0 ops) :
    ARun V.fl V.cap A.empty (V.history ops) (V.abs (V.c.runA V.s0 ops).1) := by
  have := (V.R.runA V.s0 t0 ops (V.inv0 t0) ht).2
  rwa [V.abs0] at this

/-- The policy-independent sequential rules for one sequential history `ops` of the container: each field is
the conclusion of the theorem of its name, verbatim. -/
structure SeqRules (ops : List (Time × Op)) : Prop where
  /-- **C01 (and C04 for tlru/utlru).** A lookup that reports `v` for `k` reports the value of the latest
  successful write of `k` not since undone by a successful erase of `k` or a clear — and, in the lazy-TTL
  caches, does so strictly before that write's deadline. -/
  C01 : ∀ (p q : List (Time × Atom)) (now : Time) (k : Key) (pk : Bool) (v : Val) (n : Nat),
    V.history ops = p ++ (now, .look k pk (some (v, n))) :: q →
    ∃ d, lastWrite p k = some (v, d) ∧ (V.fl = .lazy → now < d)
  /-- **C02 (capacity bound).** After the history the number of resident entries is at most the capacity
  (bounded containers). -/
  C02_bound : V.fl ≠ .eager → (V.abs (V.c.runA V.s0 ops).1).size ≤ V.cap
  /-- **C03 (retention).** At every step except `clear()`: a resident entry that is live at that instant is
  still resident afterwards with the same value and deadline, unless its key is the key erased by a successful
  erase, the key being written, or the single victim of an accepted insert of a new key into a full container —
  and then exactly one entry goes and the size stays at capacity. -/
  C03 : ∀ (p q : List (Time × Atom)) (now : Time) (x : Atom),
    V.history ops = p ++ (now, x) :: q → x ≠ .clear →
    ∃ a a' ks, ARun V.fl V.cap A.empty p a ∧ AStep V.fl V.cap a now x a' ∧ allowedLoss a x a' ks ∧
      ∀ k' y, a.get k' = some y → liveAt V.fl now y → k' ∉ ks →
        (∀ k v al d, x = .ins k v al d true → k' ≠ k) → a'.get k' = some y
  /-- **C05 (TTL retention).** At every lookup: if the key's resident entry — which by the coupling is its
  latest successful write, with the deadline that write carried — has not reached its deadline, the lookup
  reports its value.  (`a'` is bound by the existential alone, so `a' = a` claims nothing here; that such a
  lookup removes nothing is `Spec.live_is_served` for the step that `C03` exhibits.) -/
  C05 : ∀ (p q : List (Time × Atom)) (now : Time) (k : Key) (pk : Bool) (r : Option (Val × Nat)),
    V.history ops = p ++ (now, .look k pk r) :: q →
    ∃ a a', ARun V.fl V.cap A.empty p a ∧ Coupled a (lastWrite p) ∧
      ∀ y, a.get k = some y → now < y.2 → r.map (·.1) = some y.1 ∧ a' = a
  /-- **C09 (allow modes).** At every single insert/update (each element of a range included): the verdict by
  allow mode and residency.  (`a'` is bound by the existential alone, so the last two clauses claim nothing
  here; no effect on rejection, value and deadline written on success is `Spec.allow_verdict` for the step that
  `C03` exhibits.) -/
  C09 : ∀ (p q : List (Time × Atom)) (now : Time) (k : Key) (v : Val) (al : Allow) (d : Time) (ok : Bool),
    V.history ops = p ++ (now, .ins k v al d ok) :: q →
    ∃ a a', ARun V.fl V.cap A.empty p a ∧
      (al = .insertOrUpdate → ok = true) ∧
      (al = .insert → (ok = true ↔ (a.get k = none ∨ (V.fl = .lazy ∧ ∃ y, a.get k = some y ∧ y.2 ≤ now)))) ∧
      (al = .update → (ok = true ↔ a.get k ≠ none)) ∧
      (ok = false → a' = a) ∧ (ok = true → a'.get k = some (v, d))
  /-- **C17 (clean_expired_values).** At every `clean_expired_values()` of a TTL container: exactly the expired
  entries go, every live entry stays with its value and deadline, and the returned count is the drop in
  `size()`. -/
  C17 : V.fl ≠ .plain → ∀ (p q : List (Time × Atom)) (now : Time) (n : Nat),
    V.history ops = p ++ (now, .reap n) :: q →
    ∃ a a', ARun V.fl V.cap A.empty p a ∧ AStep V.fl V.cap a now (.reap n) a' ∧
      a'.size + n = a.size ∧
      (∀ k y, a.get k = some y → now < y.2 → a'.get k = some y) ∧
      (∀ k y, a'.get k = some y → now < y.2 ∧ a.get k = some y)

theorem seqRules_of_run {ops : List (Time × Op)}
    (hr : ARun V.fl V.cap A.empty (V.history ops) (V.abs (V.c.runA V.s0 ops).1)) : V.SeqRules ops where
  C01 p q now k pk v n hs := lookup_hit_is_last_write (hs ▸ hr)
  C02_bound hfl := size_le_cap_run hfl (Nat.zero_le _) hr
  C03 p q now x hs hx := by
    obtain ⟨a, a', h1, hst, _, _⟩ := step_of_run (hs ▸ hr)
    obtain ⟨ks, hk, hret⟩ := retention_step hst hx
    exact ⟨a, a', ks, h1, hst, hk, hret⟩
  C05 p q now k pk r hs := by
    obtain ⟨a, a', h1, hst, hc, _⟩ := step_of_run (hs ▸ hr)
    exact ⟨a, a', h1, hc, fun y hy hl => live_is_served hst hy (Or.inl hl)⟩
  C09 p q now k v al d ok hs := by
    obtain ⟨a, a', h1, hst, _, _⟩ := step_of_run (hs ▸ hr)
    exact ⟨a, a', h1, allow_verdict hst⟩
  C17 hfl p q now n hs := by
    obtain ⟨a, a', h1, hst, _, _⟩ := step_of_run (hs ▸ hr)
    exact ⟨a, a', h1, hst, reap_exact hfl hst⟩

/-- **C01 (and C04 for tlru/utlru)**: `SeqRules.C01` of every history with non-decreasing clock readings. -/
theorem C01 (ops : List (Time × Op)) (t0 : Time) (ht : TimesFrom t0 ops)
    (p q : List (Time × Atom)) (now : Time) (k : Key) (pk : Bool) (v : Val) (n : Nat)
    (hsplit : V.history ops = p ++ (now, .look k pk (some (v, n))) :: q) :
    ∃ d, lastWrite p k = some (v, d) ∧ (V.fl = .lazy → now < d) :=
  (V.seqRules_of_run (V.history_is_run ops t0 ht)).C01 p q now k pk v n hsplit

/-- **C02 (capacity bound)**: `SeqRules.C02_bound` of every such history. -/
theorem C02_bound (hfl : V.fl ≠ .eager) (ops : List (Time × Op)) (t0 : Time) (ht : TimesFrom t0 ops) :
    (V.abs (V.c.runA V.s0 ops).1).size ≤ V.cap :=
  (V.seqRules_of_run (V.history_is_run ops t0 ht)).C02_bound hfl

/-- **C03 (retention)**: `SeqRules.C03` of every such history. -/
theorem C03 (ops : List (Time × Op)) (t0 : Time) (ht : TimesFrom t0 ops)
    (p q : List (Time × Atom)) (now : Time) (x : Atom) (hsplit : V.history ops = p ++ (now, x) :: q)
    (hx : x ≠ .clear) :
    ∃ a a' ks, ARun V.fl V.cap A.empty p a ∧ AStep V.fl V.cap a now x a' ∧ allowedLoss a x a' ks ∧
      ∀ k' y, a.get k' = some y → liveAt V.fl now y → k' ∉ ks →
        (∀ k v al d, x = .ins k v al d true → k' ≠ k) → a'.get k' = some y :=
  (V.seqRules_of_run (V.history_is_run ops t0 ht)).C03 p q now x hsplit hx

/-- **C05 (TTL retention)**: `SeqRules.C05` of every such history (mind its remark on `a'`). -/
theorem C05 (ops : List (Time × Op)) (t0 : Time) (ht : TimesFrom t0 ops)
    (p q : List (Time × Atom)) (now : Time) (k : Key) (pk : Bool) (r : Option (Val × Nat))
    (hsplit : V.history ops = p ++ (now, .look k pk r) :: q) :
    ∃ a a', ARun V.fl V.cap A.empty p a ∧ Coupled a (lastWrite p) ∧
      ∀ y, a.get k = some y → now < y.2 → r.map (·.1) = some y.1 ∧ a' = a :=
  (V.seqRules_of_run (V.history_is_run ops t0 ht)).C05 p q now k pk r hsplit

/-- **C09 (allow modes)**: `SeqRules.C09` of every such history (mind its remark on `a'`). -/
theorem C09 (ops : List (Time × Op)) (t0 : Time) (ht : TimesFrom t0 ops)
    (p q : List (Time × Atom)) (now : Time) (k : Key) (v : Val) (al : Allow) (d : Time) (ok : Bool)
    (hsplit : V.history ops = p ++ (now, .ins k v al d ok) :: q) :
    ∃ a a', ARun V.fl V.cap A.empty p a ∧
      (al = .insertOrUpdate → ok = true) ∧
      (al = .insert → (ok = true ↔ (a.get k = none ∨ (V.fl = .lazy ∧ ∃ y, a.get k = some y ∧ y.2 ≤ now)))) ∧
      (al = .update → (ok = true ↔ a.get k ≠ none)) ∧
      (ok = false → a' = a) ∧ (ok = true → a'.get k = some (v, d)) :=
  (V.seqRules_of_run (V.history_is_run ops t0 ht)).C09 p q now k v al d ok hsplit

/-- **C17 (clean_expired_values)**: `SeqRules.C17` of every such history. -/
theorem C17 (hfl : V.fl ≠ .plain) (ops : List (Time × Op)) (t0 : Time) (ht : TimesFrom t0 ops)
    (p q : List (Time × Atom)) (now : Time) (n : Nat)
    (hsplit : V.history ops = p ++ (now, .reap n) :: q) :
    ∃ a a', ARun V.fl V.cap A.empty p a ∧ AStep V.fl V.cap a now (.reap n) a' ∧
      a'.size + n = a.size ∧
      (∀ k y, a.get k = some y → now < y.2 → a'.get k = some y) ∧
      (∀ k y, a'.get k = some y → now < y.2 ∧ a.get k = some y) :=
  (V.seqRules_of_run (V.history_is_run ops t0 ht)).C17 hfl p q now n hsplit

end Verified

def lruV (cap : Nat) (h : 0 < cap) : Verified RecState :=
  { c := Lru.core, fl := .plain, cap, Inv := fun _ => Rec.Inv cap, abs := Rec.abs, R := Rec.refines .oldest cap,
    s0 := Rec.init cap, inv0 := fun _ => Rec.inv_init h, abs0 := rfl }

def mruV (cap : Nat) (h : 0 < cap) : Verified RecState :=
  { c := Mru.core, fl := .plain, cap, Inv := fun _ => Rec.Inv cap, abs := Rec.abs, R := Rec.refines .newest cap,
    s0 := Rec.init cap, inv0 := fun _ => Rec.inv_init h, abs0 := rfl }

def fifoV (cap : Nat) (h : 0 < cap) : Verified FifoState :=
  { c := Fifo.core, fl := .plain, cap, Inv := fun _ => Fifo.Inv cap, abs := Fifo.abs, R := Fifo.refines cap,
    s0 := Fifo.init cap, inv0 := fun _ => Fifo.inv_init h, abs0 := rfl }

def rrV (cap : Nat) (h : 0 < cap) (rnd : List Nat) (hr : ∀ r ∈ rnd, r < cap) : Verified RrState :=
  { c := Rr.core, fl := .plain, cap, Inv := fun _ => Rr.Inv cap, abs := Rr.abs, R := Rr.refines cap,
    s0 := Rr.init cap rnd, inv0 := fun _ => Rr.inv_init h rnd hr, abs0 := rfl }

def lfuV (cap : Nat) (h : 0 < cap) : Verified LfuState :=
  { c := Lfu.core, fl := .plain, cap, Inv := fun _ => Lfu.Inv cap, abs := Lfu.abs, R := Lfu.refines cap,
    s0 := Lfu.init cap, inv0 := fun _ => Lfu.inv_init h, abs0 := rfl }

def lfudaV (cap : Nat) (h : 0 < cap) (tickMs num den : Nat) : Verified LfudaState :=
  { c := Lfuda.core, fl := .plain, cap, Inv := fun _ => Lfuda.Inv cap, abs := Lfuda.abs, R := Lfuda.refines cap,
    s0 := Lfuda.init cap tickMs num den, inv0 := fun _ => Lfuda.inv_init h tickMs num den, abs0 := rfl }

def tlruV (cap : Nat) (h : 0 < cap) : Verified TlruState :=
  { c := Tlru.core, fl := .lazy, cap, Inv := fun _ => Tlru.Inv cap, abs := Tlru.abs, R := Tlru.refines cap,
    s0 := Tlru.init cap, inv0 := fun _ => Tlru.inv_init h, abs0 := rfl }

def utlruV (cap : Nat) (h : 0 < cap) (ttlMs : Nat) : Verified TlruState :=
  { c := Utlru.core, fl := .lazy, cap, Inv := fun _ => Tlru.Inv cap, abs := Tlru.abs, R := Utlru.refines cap,
    s0 := Utlru.init cap ttlMs, inv0 := fun _ => Utlru.inv_init h ttlMs, abs0 := rfl }

/-- ut_map, and ut_set (= ut_map whose values are all 1); unbounded, and the eager flavor never reads `cap` -/
def utmapV (ttlMs : Nat) : Verified UtMapState :=
  { c := UtMap.core, fl := .eager, cap := 0, Inv := UtMap.Inv, abs := UtMap.abs, R := UtMap.refines 0,
    s0 := UtMap.init ttlMs, inv0 := fun t => UtMap.inv_init ttlMs t, abs0 := rfl }

end Verif
