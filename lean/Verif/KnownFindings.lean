import Verif.Proofs.Eager
/-!
# Known findings KF1–KF3 as theorems about the models: the letter of C18 / C02 / C19 is *false* there

`C18_utmap` carries the hypotheses `0 < ttl` and `singles op ≠ []`; `C19_tlru` says "removes only entries
already expired" rather than "changes nothing observable".  These are not weaknesses of the proofs: at the
excluded points the full-strength statements are false of the models — and of the code, on which the same
scripts (`/verif/kf/*.txt`) are replayed by every run of the C18 / C02 / C19 checks (`KNOWN-FINDING:` lines).
Each theorem below evaluates the model on exactly that replay script (kernel evaluation, `decide`).
-/
namespace Verif.KnownFindings
open Verif

def t0 : Time := 1000000000

/-- **KF1** (C18, ut_map/ut_set constructed with TTL 0): the range insert leaves three entries, the same three
single inserts leave one (each single call's purge removes its predecessor's already-expired write), so
`size()` is 3 on one twin and 1 on the other.  The C18 state equation fails although no key is live on either. -/
theorem KF1_range_differs_from_singles :
    let op := Op.insertRange [(0, 101, 0), (1, 102, 0), (2, 103, 0)] .insertOrUpdate
    let viaRange := (UtMap.core.step (UtMap.init 0) t0 op).1
    let viaSingles := (UtMap.core.run (UtMap.init 0) ((singles op).map (fun o => (t0, o)))).1
    UtMap.core.size viaRange = 3 ∧ UtMap.core.size viaSingles = 1 ∧ viaRange ≠ viaSingles := by
  decide

/-- **KF1b** (C02, same configuration): right after `insert` the size is 1 although a lookup at the same
instant finds nothing — `size()` ≠ number of live keys. -/
theorem KF1b_size_counts_a_dead_entry :
    let s := (UtMap.core.step (UtMap.init 0) t0 (.insert 0 101 .insertOrUpdate 0)).1
    UtMap.core.size s = 1 ∧ (UtMap.core.step s t0 (.find 0 false)).2 = .opt none := by
  decide

/-- **KF2** (C18, ut_map/ut_set, TTL 1 ms): a range call with *no* elements still runs the per-call purge;
zero single calls do nothing.  After the entry has expired, `find_range({})` changes the state (size 1 → 0). -/
theorem KF2_empty_range_purges :
    let s := (UtMap.core.step (UtMap.init 1) t0 (.insert 0 101 .insertOrUpdate 0)).1
    let op := Op.findRange [] false
    singles op = [] ∧
    UtMap.core.size (UtMap.core.step s (t0 + 2 * msNs) op).1 = 0 ∧
    UtMap.core.size (UtMap.core.run s ((singles op).map (fun o => (t0 + 2 * msNs, o)))).1 = 1 := by
  decide

/-- **KF3** (C19, tlru): a peek lookup that misses because the entry has expired reaps it, and a later
`clean_expired_values()` returns 0 instead of 1.  C19 allows a difference in `size()` and in erase /
update-only results only. -/
theorem KF3_clean_count_differs_after_a_peek :
    let s := (Tlru.core.step (Tlru.init 2) t0 (.insert 0 101 .insertOrUpdate 1)).1
    let later := t0 + 2 * msNs
    let s' := (Tlru.core.step s later (.find 0 true)).1
    (Tlru.core.step s later (.find 0 true)).2 = .opt none ∧
    (Tlru.core.step s later .clean).2 = .nat 1 ∧ (Tlru.core.step s' later .clean).2 = .nat 0 := by
  decide

end Verif.KnownFindings
