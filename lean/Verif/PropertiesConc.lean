import Verif.PropertiesAnyClock
import Verif.Proofs.Eager
import Verif.Conc.Linearizable
/-!
# C06 composed with the sequential theorems: the property theorems for concurrent histories

`Conc.locked_object_linearizable` gives every history of the lock-protected machine a linearization,
for any sequential specification `step`.  Here `step` is a container model, an operation being a public
call together with the clock reading it sampled (`objStep`); a legal linearization of that object *is* a
sequential history whose outputs under `Core.run` are the outputs the concurrent calls returned
(`Core.legal_iff_run`), so the sequential theorems apply to it.

With `thread_safe::yes` tlru_cache, utlru_cache and lfuda_cache call `steady_clock::now()` before they
take the lock, so in the order in which the calls take effect the readings can go backwards: what is
lifted for the eight containers whose invariant ignores the clock are the any-clock forms of
`PropertiesAnyClock.lean`.  ut_map/ut_set need monotone readings and read the clock under the lock: second half.
-/
namespace Verif
open Verif.Spec

/-- `C…`: a concurrent history / a linearization of a container whose operation is (the clock reading the call
sampled, the call).  `K…` below: the same for the object that reads the clock under its lock. -/
abbrev CHistory := List (Conc.Ev (Time × Op) Out)

abbrev CLin := List (Conc.LinOp (Time × Op) Out)

def CLin.ops (lin : CLin) : List (Time × Op) := lin.map (·.op)

def CLin.outs (lin : CLin) : List Out := lin.map (·.out)

namespace Core
variable {σ : Type} (c : Core σ)

def objStep : σ → (Time × Op) → σ × Out := fun s x => c.step s x.1 x.2

theorem legal_iff_run (s : σ) (l : List ((Time × Op) × Out)) :
    Conc.Legal c.objStep s l ↔ (c.run s (l.map (·.1))).2 = l.map (·.2) := by
  induction l generalizing s with
  | nil => exact iff_of_true trivial rfl
  | cons x r ih =>
    obtain ⟨⟨t, op⟩, out⟩ := x
    show (c.step s t op).2 = out ∧ Conc.Legal c.objStep (c.step s t op).1 r ↔
      (c.step s t op).2 :: (c.run (c.step s t op).1 (r.map (·.1))).2 = out :: r.map (·.2)
    rw [ih, List.cons.injEq]

theorem finalState_eq_run (s : σ) (l : List ((Time × Op) × Out)) :
    Conc.finalState c.objStep s l = (c.run s (l.map (·.1))).1 := by
  induction l generalizing s with
  | nil => rfl
  | cons x r ih => exact ih _

end Core

namespace Verified
variable {σ : Type} (V : Verified σ)

/-- The container as an atomic object: an operation is a public call together with the clock reading
the call sampled (before or after taking the lock: for a `Timeless` container it does not matter). -/
def objStep (V : Verified σ) : σ → (Time × Op) → σ × Out := fun s x => V.c.step s x.1 x.2

theorem objStep_eq : V.objStep = V.c.objStep := rfl

/-- A linearization of a history of the container object is a sequential history: replayed on the fresh
container it returns what the concurrent calls returned (under `run`, and under `runA`, over which the
property theorems are stated). -/
theorem linearization_is_history {h : CHistory} {lin : CLin}
    (hl : Conc.IsLinearization V.objStep V.s0 h lin) :
    (V.c.run V.s0 lin.ops).2 = lin.outs ∧ (V.c.runA V.s0 lin.ops).2.1 = lin.outs ∧
      (V.c.run V.s0 lin.ops).1 = Conc.finalState V.objStep V.s0 (lin.map fun x => (x.op, x.out)) := by
  have h1 := (V.c.legal_iff_run V.s0 _).mp hl.legal
  have h2 := V.c.finalState_eq_run V.s0 (lin.map fun x => (x.op, x.out))
  simp only [List.map_map] at h1 h2
  refine ⟨h1, ?_, h2.symm⟩
  rw [V.outputs_eq]; exact h1

/-- conversely; so `Legal` says no more and no less than "these are `run`'s outputs" -/
theorem legal_of_run (ops : List (Time × Op)) :
    Conc.Legal V.objStep V.s0 (ops.zip (V.c.run V.s0 ops).2) := by
  generalize V.s0 = s
  induction ops generalizing s with
  | nil => trivial
  | cons x r ih => exact ⟨rfl, ih _⟩

theorem seqRules_anyclock (ops : List (Time × Op)) (htl : V.Timeless) : V.SeqRules ops :=
  V.seqRules_of_run (V.history_is_run_anyclock ops htl)

theorem seqRules_mono (ops : List (Time × Op)) (t0 : Time) (ht : TimesFrom t0 ops) : V.SeqRules ops :=
  V.seqRules_of_run (V.history_is_run ops t0 ht)

/-- `lin` is a sequential explanation of the concurrent history `h` of the container: a Herlihy–Wing
linearization of `h` (every completed call appears in it with the output it returned, per-thread and
real-time order are respected) whose calls, replayed one after the other on a fresh container, return
exactly the outputs the concurrent calls returned. -/
structure Explains (h : CHistory) (lin : CLin) : Prop where
  isLin : Conc.IsLinearization V.objStep V.s0 h lin
  outputs : (V.c.run V.s0 lin.ops).2 = lin.outs

theorem explains {h : CHistory} {lin : CLin} (hl : Conc.IsLinearization V.objStep V.s0 h lin) :
    V.Explains h lin :=
  ⟨hl, (V.linearization_is_history hl).1⟩

/-- **C06 for a container object.** Every history of the lock-protected implementation (any number of
threads, any schedule) has a sequential explanation. -/
theorem conc_explained {h : CHistory} (hh : Conc.ImplHistory V.objStep V.s0 h) :
    ∃ lin, V.Explains h lin :=
  (Conc.locked_object_linearizable hh).imp fun _ hl => V.explains hl

/-- Not only the linearization that `locked_object_linearizable` constructs: every linearization of a
history of a clock-independent container obeys the sequential rules. -/
theorem linearization_sequential_rules (htl : V.Timeless) {h : CHistory} {lin : CLin}
    (hl : Conc.IsLinearization V.objStep V.s0 h lin) : V.Explains h lin ∧ V.SeqRules lin.ops :=
  ⟨V.explains hl, V.seqRules_anyclock lin.ops htl⟩

/-- **C06 ∘ (C01, C02, C03, C05, C09, C17).** With `thread_safe::yes`, whatever the threads do, the
results the calls of lru/mru/fifo/lfu/lfuda/rr/tlru/utlru return are those of one sequential ordering
of the same calls (consistent with program and real-time order), and that ordering obeys every
policy-independent sequential rule — even though its clock readings need not be monotone.
`conc_C01` … `conc_C17` are the fields of `SeqRules` one at a time. -/
theorem conc_sequential_rules (htl : V.Timeless) (h : CHistory)
    (hh : Conc.ImplHistory V.objStep V.s0 h) :
    ∃ lin, V.Explains h lin ∧ V.SeqRules lin.ops :=
  (V.conc_explained hh).imp fun lin hl => ⟨hl, V.seqRules_anyclock lin.ops htl⟩

/-- **C01 (and C04 for tlru/utlru), concurrent**: `C01_anyclock` of the sequential explanation. -/
theorem conc_C01 (htl : V.Timeless) (h : CHistory) (hh : Conc.ImplHistory V.objStep V.s0 h) :
    ∃ lin, V.Explains h lin ∧
      ∀ (p q : List (Time × Atom)) (now : Time) (k : Key) (pk : Bool) (v : Val) (n : Nat),
        V.history lin.ops = p ++ (now, .look k pk (some (v, n))) :: q →
        ∃ d, lastWrite p k = some (v, d) ∧ (V.fl = .lazy → now < d) :=
  (V.conc_sequential_rules htl h hh).imp fun _ r => ⟨r.1, r.2.C01⟩

/-- **C02 (capacity bound), concurrent**: `C02_bound_anyclock` of the sequential explanation; the state
it ends in is the object value `finalState` of that linearization (`linearization_is_history`). -/
theorem conc_C02_bound (hfl : V.fl ≠ .eager) (htl : V.Timeless) (h : CHistory)
    (hh : Conc.ImplHistory V.objStep V.s0 h) :
    ∃ lin, V.Explains h lin ∧ (V.abs (V.c.runA V.s0 lin.ops).1).size ≤ V.cap :=
  (V.conc_sequential_rules htl h hh).imp fun _ r => ⟨r.1, r.2.C02_bound hfl⟩

/-- **C03 (retention), concurrent**: `C03_anyclock` of the sequential explanation. -/
theorem conc_C03 (htl : V.Timeless) (h : CHistory) (hh : Conc.ImplHistory V.objStep V.s0 h) :
    ∃ lin, V.Explains h lin ∧
      ∀ (p q : List (Time × Atom)) (now : Time) (x : Atom),
        V.history lin.ops = p ++ (now, x) :: q → x ≠ .clear →
        ∃ a a' ks, ARun V.fl V.cap A.empty p a ∧ AStep V.fl V.cap a now x a' ∧ allowedLoss a x a' ks ∧
          ∀ k' y, a.get k' = some y → liveAt V.fl now y → k' ∉ ks →
            (∀ k v al d, x = .ins k v al d true → k' ≠ k) → a'.get k' = some y :=
  (V.conc_sequential_rules htl h hh).imp fun _ r => ⟨r.1, r.2.C03⟩

/-- **C05 (TTL retention), concurrent**: `C05_anyclock` of the sequential explanation. -/
theorem conc_C05 (htl : V.Timeless) (h : CHistory) (hh : Conc.ImplHistory V.objStep V.s0 h) :
    ∃ lin, V.Explains h lin ∧
      ∀ (p q : List (Time × Atom)) (now : Time) (k : Key) (pk : Bool) (r : Option (Val × Nat)),
        V.history lin.ops = p ++ (now, .look k pk r) :: q →
        ∃ a a', ARun V.fl V.cap A.empty p a ∧ Coupled a (lastWrite p) ∧
          ∀ y, a.get k = some y → now < y.2 → r.map (·.1) = some y.1 ∧ a' = a :=
  (V.conc_sequential_rules htl h hh).imp fun _ r => ⟨r.1, r.2.C05⟩

/-- **C09 (allow modes), concurrent**: `C09_anyclock` of the sequential explanation. -/
theorem conc_C09 (htl : V.Timeless) (h : CHistory) (hh : Conc.ImplHistory V.objStep V.s0 h) :
    ∃ lin, V.Explains h lin ∧
      ∀ (p q : List (Time × Atom)) (now : Time) (k : Key) (v : Val) (al : Allow) (d : Time) (ok : Bool),
        V.history lin.ops = p ++ (now, .ins k v al d ok) :: q →
        ∃ a a', ARun V.fl V.cap A.empty p a ∧
          (al = .insertOrUpdate → ok = true) ∧
          (al = .insert → (ok = true ↔ (a.get k = none ∨ (V.fl = .lazy ∧ ∃ y, a.get k = some y ∧ y.2 ≤ now)))) ∧
          (al = .update → (ok = true ↔ a.get k ≠ none)) ∧
          (ok = false → a' = a) ∧ (ok = true → a'.get k = some (v, d)) :=
  (V.conc_sequential_rules htl h hh).imp fun _ r => ⟨r.1, r.2.C09⟩

/-- **C17 (clean_expired_values), concurrent**: `C17_anyclock` of the sequential explanation. -/
theorem conc_C17 (hfl : V.fl ≠ .plain) (htl : V.Timeless) (h : CHistory)
    (hh : Conc.ImplHistory V.objStep V.s0 h) :
    ∃ lin, V.Explains h lin ∧
      ∀ (p q : List (Time × Atom)) (now : Time) (n : Nat),
        V.history lin.ops = p ++ (now, .reap n) :: q →
        ∃ a a', ARun V.fl V.cap A.empty p a ∧ AStep V.fl V.cap a now (.reap n) a' ∧
          a'.size + n = a.size ∧
          (∀ k y, a.get k = some y → now < y.2 → a'.get k = some y) ∧
          (∀ k y, a'.get k = some y → now < y.2 ∧ a.get k = some y) :=
  (V.conc_sequential_rules htl h hh).imp fun _ r => ⟨r.1, r.2.C17 hfl⟩

end Verified

theorem lruV_conc (cap : Nat) (hcap : 0 < cap) (h : CHistory)
    (hh : Conc.ImplHistory (lruV cap hcap).objStep (lruV cap hcap).s0 h) :
    ∃ lin, (lruV cap hcap).Explains h lin ∧ (lruV cap hcap).SeqRules lin.ops :=
  (lruV cap hcap).conc_sequential_rules (lruV_timeless cap hcap) h hh

theorem mruV_conc (cap : Nat) (hcap : 0 < cap) (h : CHistory)
    (hh : Conc.ImplHistory (mruV cap hcap).objStep (mruV cap hcap).s0 h) :
    ∃ lin, (mruV cap hcap).Explains h lin ∧ (mruV cap hcap).SeqRules lin.ops :=
  (mruV cap hcap).conc_sequential_rules (mruV_timeless cap hcap) h hh

theorem fifoV_conc (cap : Nat) (hcap : 0 < cap) (h : CHistory)
    (hh : Conc.ImplHistory (fifoV cap hcap).objStep (fifoV cap hcap).s0 h) :
    ∃ lin, (fifoV cap hcap).Explains h lin ∧ (fifoV cap hcap).SeqRules lin.ops :=
  (fifoV cap hcap).conc_sequential_rules (fifoV_timeless cap hcap) h hh

/-- for every outcome sequence `rnd` of the random source -/
theorem rrV_conc (cap : Nat) (hcap : 0 < cap) (rnd : List Nat) (hr : ∀ r ∈ rnd, r < cap) (h : CHistory)
    (hh : Conc.ImplHistory (rrV cap hcap rnd hr).objStep (rrV cap hcap rnd hr).s0 h) :
    ∃ lin, (rrV cap hcap rnd hr).Explains h lin ∧ (rrV cap hcap rnd hr).SeqRules lin.ops :=
  (rrV cap hcap rnd hr).conc_sequential_rules (rrV_timeless cap hcap rnd hr) h hh

theorem lfuV_conc (cap : Nat) (hcap : 0 < cap) (h : CHistory)
    (hh : Conc.ImplHistory (lfuV cap hcap).objStep (lfuV cap hcap).s0 h) :
    ∃ lin, (lfuV cap hcap).Explains h lin ∧ (lfuV cap hcap).SeqRules lin.ops :=
  (lfuV cap hcap).conc_sequential_rules (lfuV_timeless cap hcap) h hh

theorem lfudaV_conc (cap : Nat) (hcap : 0 < cap) (tickMs num den : Nat) (h : CHistory)
    (hh : Conc.ImplHistory (lfudaV cap hcap tickMs num den).objStep (lfudaV cap hcap tickMs num den).s0 h) :
    ∃ lin, (lfudaV cap hcap tickMs num den).Explains h lin ∧ (lfudaV cap hcap tickMs num den).SeqRules lin.ops :=
  (lfudaV cap hcap tickMs num den).conc_sequential_rules (lfudaV_timeless cap hcap tickMs num den) h hh

theorem tlruV_conc (cap : Nat) (hcap : 0 < cap) (h : CHistory)
    (hh : Conc.ImplHistory (tlruV cap hcap).objStep (tlruV cap hcap).s0 h) :
    ∃ lin, (tlruV cap hcap).Explains h lin ∧ (tlruV cap hcap).SeqRules lin.ops :=
  (tlruV cap hcap).conc_sequential_rules (tlruV_timeless cap hcap) h hh

theorem utlruV_conc (cap : Nat) (hcap : 0 < cap) (ttlMs : Nat) (h : CHistory)
    (hh : Conc.ImplHistory (utlruV cap hcap ttlMs).objStep (utlruV cap hcap ttlMs).s0 h) :
    ∃ lin, (utlruV cap hcap ttlMs).Explains h lin ∧ (utlruV cap hcap ttlMs).SeqRules lin.ops :=
  (utlruV cap hcap ttlMs).conc_sequential_rules (utlruV_timeless cap hcap ttlMs) h hh

/-! ### The replacement-policy theorems (C10–C13, C15, C16)

Each adds to `*V_conc` the `_history_anyclock` theorem of `PropertiesAnyClock.lean` about `lin.ops`. -/

/-- **C10 (lru_cache), concurrent.** The victim is the least recently used resident key, where "used"
refers to the order in which the concurrent calls took effect. -/
theorem conc_C10_lru (cap : Nat) (hcap : 0 < cap) (h : CHistory)
    (hh : Conc.ImplHistory (lruV cap hcap).objStep (lruV cap hcap).s0 h) :
    ∃ lin, (lruV cap hcap).Explains h lin ∧ (lruV cap hcap).SeqRules lin.ops ∧
      ∃ tr : STrace RecState, tr.atoms = (lruV cap hcap).history lin.ops ∧
        ∀ p q s now k v al d, tr = p ++ (s, now, .ins k v al d true) :: q → k ∉ keys s.ents → cap ≤ s.ents.length →
          ∃ s' w, CStep Lru.core s now (.ins k v al d true) s' ∧
            firstIn (useOrder p) (keys s.ents) = some w ∧ Evicts (keys s.ents) (keys s'.ents) k w :=
  (lruV_conc cap hcap h hh).imp fun lin r => ⟨r.1, r.2, C10_lru_history_anyclock cap hcap lin.ops⟩

/-- **C13 (mru_cache), concurrent.** The victim is the most recently used resident key. -/
theorem conc_C13_mru (cap : Nat) (hcap : 0 < cap) (h : CHistory)
    (hh : Conc.ImplHistory (mruV cap hcap).objStep (mruV cap hcap).s0 h) :
    ∃ lin, (mruV cap hcap).Explains h lin ∧ (mruV cap hcap).SeqRules lin.ops ∧
      ∃ tr : STrace RecState, tr.atoms = (mruV cap hcap).history lin.ops ∧
        ∀ p q s now k v al d, tr = p ++ (s, now, .ins k v al d true) :: q → k ∉ keys s.ents → cap ≤ s.ents.length →
          ∃ s' w, CStep Mru.core s now (.ins k v al d true) s' ∧
            lastIn (useOrder p) (keys s.ents) = some w ∧ Evicts (keys s.ents) (keys s'.ents) k w ∧
            lastIn (useOrder (p ++ [(s, now, .ins k v al d true)])) (keys s'.ents) = some k :=
  (mruV_conc cap hcap h hh).imp fun lin r => ⟨r.1, r.2, C13_mru_history_anyclock cap hcap lin.ops⟩

/-- **C12 (fifo_cache), concurrent.** The victim is the resident key that was inserted first. -/
theorem conc_C12_fifo (cap : Nat) (hcap : 0 < cap) (h : CHistory)
    (hh : Conc.ImplHistory (fifoV cap hcap).objStep (fifoV cap hcap).s0 h) :
    ∃ lin, (fifoV cap hcap).Explains h lin ∧ (fifoV cap hcap).SeqRules lin.ops ∧
      ∃ tr : STrace FifoState, tr.atoms = (fifoV cap hcap).history lin.ops ∧
        ∀ p q s now k v al d, tr = p ++ (s, now, .ins k v al d true) :: q → k ∉ keys s.ents → cap ≤ s.ents.length →
          ∃ s' w, CStep Fifo.core s now (.ins k v al d true) s' ∧
            firstIn (bornOrder (fun s => keys s.ents) p) (keys s.ents) = some w ∧
            Evicts (keys s.ents) (keys s'.ents) k w :=
  (fifoV_conc cap hcap h hh).imp fun lin r => ⟨r.1, r.2, C12_fifo_history_anyclock cap hcap lin.ops⟩

/-- **C11 (lfu_cache), concurrent.** Reported use counts are the ghost counts; the victim's count is minimal. -/
theorem conc_C11_lfu (cap : Nat) (hcap : 0 < cap) (h : CHistory)
    (hh : Conc.ImplHistory (lfuV cap hcap).objStep (lfuV cap hcap).s0 h) :
    ∃ lin, (lfuV cap hcap).Explains h lin ∧ (lfuV cap hcap).SeqRules lin.ops ∧
      ∃ tr : STrace LfuState, tr.atoms = (lfuV cap hcap).history lin.ops ∧
        (∀ p q s now k pk v n, tr = p ++ (s, now, .look k pk (some (v, n))) :: q →
          n = useCount (fun s => keys s.ents) (p ++ [(s, now, .look k pk (some (v, n)))]) k) ∧
        (∀ p q s now k v al d, tr = p ++ (s, now, .ins k v al d true) :: q → k ∉ keys s.ents → cap ≤ s.ents.length →
          ∃ s' w, CStep Lfu.core s now (.ins k v al d true) s' ∧ Evicts (keys s.ents) (keys s'.ents) k w ∧
            ∀ u ∈ keys s.ents, useCount (fun s => keys s.ents) p w ≤ useCount (fun s => keys s.ents) p u) :=
  (lfuV_conc cap hcap h hh).imp fun lin r => ⟨r.1, r.2, C11_lfu_history_anyclock cap hcap lin.ops⟩

/-- **C15 (rr_cache), concurrent.** The victim is the resident entry in the slot the random source named;
in a full cache slots and residents are in bijection. -/
theorem conc_C15_rr (cap : Nat) (hcap : 0 < cap) (rnd : List Nat) (hr : ∀ r ∈ rnd, r < cap) (h : CHistory)
    (hh : Conc.ImplHistory (rrV cap hcap rnd hr).objStep (rrV cap hcap rnd hr).s0 h) :
    ∃ lin, (rrV cap hcap rnd hr).Explains h lin ∧ (rrV cap hcap rnd hr).SeqRules lin.ops ∧
      ∃ tr : STrace RrState, tr.atoms = (rrV cap hcap rnd hr).history lin.ops ∧
        ∀ p q s now k v al d, tr = p ++ (s, now, .ins k v al d true) :: q → k ∉ keys s.ents → cap ≤ s.ents.length →
          ∃ s' e, CStep Rr.core s now (.ins k v al d true) s' ∧
            Rr.atSlot s.ents (s.rnd.headD 0) = some e ∧ Evicts (keys s.ents) (keys s'.ents) k e.key ∧
            s'.rnd = s.rnd.tail ∧ s.rnd.headD 0 < cap ∧
            (∀ r, r < cap → ∃ e, e ∈ s.ents ∧ e.slot = r ∧ ∀ e' ∈ s.ents, e'.slot = r → e' = e) ∧
            (∀ e ∈ s.ents, e.slot < cap) :=
  (rrV_conc cap hcap rnd hr h hh).imp fun lin r => ⟨r.1, r.2, C15_rr_history_anyclock cap hcap rnd hr lin.ops⟩

/-- **C10 and C16 (tlru_cache), concurrent.** At an evicting insert whose clock reading is `now`:
nothing has expired at `now` ⇒ the least recently used key goes; something has ⇒ an expired entry
goes and every live one stays. -/
theorem conc_C10_C16_tlru (cap : Nat) (hcap : 0 < cap) (h : CHistory)
    (hh : Conc.ImplHistory (tlruV cap hcap).objStep (tlruV cap hcap).s0 h) :
    ∃ lin, (tlruV cap hcap).Explains h lin ∧ (tlruV cap hcap).SeqRules lin.ops ∧
      ∃ tr : STrace TlruState, tr.atoms = (tlruV cap hcap).history lin.ops ∧
        ∀ p q s now k v al d, tr = p ++ (s, now, .ins k v al d true) :: q → k ∉ keys s.ents → cap ≤ s.ents.length →
          ∃ s', CStep Tlru.core s now (.ins k v al d true) s' ∧
            ((∀ e ∈ s.ents, now < e.dl) →
              ∃ w, firstIn (useOrder p) (keys s.ents) = some w ∧ Evicts (keys s.ents) (keys s'.ents) k w) ∧
            ((∃ e ∈ s.ents, e.dl ≤ now) →
              ∃ w e, getE s.ents w = some e ∧ e.dl ≤ now ∧ Evicts (keys s.ents) (keys s'.ents) k w ∧
                ∀ u e', getE s.ents u = some e' → now < e'.dl → getE s'.ents u = some e') :=
  (tlruV_conc cap hcap h hh).imp fun lin r => ⟨r.1, r.2, C10_C16_tlru_history_anyclock cap hcap lin.ops⟩

/-- **C10 and C16 (utlru_cache), concurrent**, after any sequence of `update_ttl` calls. -/
theorem conc_C10_C16_utlru (cap : Nat) (hcap : 0 < cap) (ttlMs : Nat) (h : CHistory)
    (hh : Conc.ImplHistory (utlruV cap hcap ttlMs).objStep (utlruV cap hcap ttlMs).s0 h) :
    ∃ lin, (utlruV cap hcap ttlMs).Explains h lin ∧ (utlruV cap hcap ttlMs).SeqRules lin.ops ∧
      ∃ tr : STrace TlruState, tr.atoms = (utlruV cap hcap ttlMs).history lin.ops ∧
        ∀ p q s now k v al d, tr = p ++ (s, now, .ins k v al d true) :: q → k ∉ keys s.ents → cap ≤ s.ents.length →
          ∃ s', CStep Utlru.core s now (.ins k v al d true) s' ∧
            ((∀ e ∈ s.ents, now < e.dl) →
              ∃ w, firstIn (useOrder p) (keys s.ents) = some w ∧ Evicts (keys s.ents) (keys s'.ents) k w) ∧
            ((∃ e ∈ s.ents, e.dl ≤ now) →
              ∃ w e, getE s.ents w = some e ∧ e.dl ≤ now ∧ Evicts (keys s.ents) (keys s'.ents) k w ∧
                ∀ u e', getE s.ents u = some e' → now < e'.dl → getE s'.ents u = some e') :=
  (utlruV_conc cap hcap ttlMs h hh).imp fun lin r =>
    ⟨r.1, r.2, C10_C16_utlru_history_anyclock cap hcap ttlMs lin.ops⟩

/-! ## ut_map / ut_set: the clock is read under the lock

ut_map's invariant (its TTL list is sorted by deadline) needs non-decreasing clock readings in the
order the calls take effect, so the theorems of `Properties.lean` (hypothesis `TimesFrom`) are the ones
to lift.  The C++ reads `steady_clock::now()` *after* taking the lock there (`Conc/ClockHeld.lean`,
`Conc/ClockTable.lean`), so the readings are ordered like the critical sections.  The object below says
just that: its state carries the previous reading, and an operation carries the amount `d ≥ 0` by
which the steady clock had advanced when the call read it inside its critical section.  (`d` is fixed
in the invocation event, a prophecy of what the clock will show; the theorems hold for every history
of the machine, hence whatever the clock actually produced.) -/

/-- `K…` for the clocked object `objStepClocked`: an operation is (advance of the clock since the previous
critical section, the call) -/
abbrev KHistory := List (Conc.Ev (Nat × Op) Out)

abbrev KLin := List (Conc.LinOp (Nat × Op) Out)

/-- the readings the calls see when the clock shows `t` before the first: running sums of the advances -/
def stamps (t : Time) : List (Nat × Op) → List (Time × Op)
  | [] => []
  | (d, op) :: r => (t + d, op) :: stamps (t + d) r

/-- the last of these readings (`t` if there is no call): the clock component of the object's state afterwards -/
def lastStamp (t : Time) : List (Nat × Op) → Time
  | [] => t
  | (d, _) :: r => lastStamp (t + d) r

def KLin.ops (t0 : Time) (lin : KLin) : List (Time × Op) := stamps t0 (lin.map (·.op))

def KLin.outs (lin : KLin) : List Out := lin.map (·.out)

/-- readings taken under the lock never decrease, in the order of the critical sections -/
theorem timesFrom_stamps (t : Time) (l : List (Nat × Op)) : TimesFrom t (stamps t l) := by
  induction l generalizing t with
  | nil => trivial
  | cons x r ih => obtain ⟨d, op⟩ := x; exact ⟨Nat.le_add_right t d, ih (t + d)⟩

namespace Core
variable {σ : Type} (c : Core σ)

def objStepClocked : σ × Time → Nat × Op → (σ × Time) × Out :=
  fun st x => (((c.step st.1 (st.2 + x.1) x.2).1, st.2 + x.1), (c.step st.1 (st.2 + x.1) x.2).2)

theorem legal_clocked_iff_run (s : σ) (t : Time) (l : List ((Nat × Op) × Out)) :
    Conc.Legal c.objStepClocked (s, t) l ↔ (c.run s (stamps t (l.map (·.1)))).2 = l.map (·.2) := by
  induction l generalizing s t with
  | nil => exact iff_of_true trivial rfl
  | cons x r ih =>
    obtain ⟨⟨d, op⟩, out⟩ := x
    show (c.step s (t + d) op).2 = out ∧
        Conc.Legal c.objStepClocked ((c.step s (t + d) op).1, t + d) r ↔
      (c.step s (t + d) op).2 :: (c.run (c.step s (t + d) op).1 (stamps (t + d) (r.map (·.1)))).2 =
        out :: r.map (·.2)
    rw [ih, List.cons.injEq]

theorem finalState_clocked_eq_run (s : σ) (t : Time) (l : List ((Nat × Op) × Out)) :
    Conc.finalState c.objStepClocked (s, t) l =
      ((c.run s (stamps t (l.map (·.1)))).1, lastStamp t (l.map (·.1))) := by
  induction l generalizing s t with
  | nil => rfl
  | cons x r ih => exact ih _ _

end Core

namespace Verified
variable {σ : Type} (V : Verified σ)

/-- The container as an atomic object that reads the clock inside its critical section: state = the
model state and the previous clock reading; operation `(d, op)` = the call `op`, the steady clock having
advanced by `d` since the previous critical section. -/
def objStepClocked (V : Verified σ) : σ × Time → Nat × Op → (σ × Time) × Out :=
  fun st x => (((V.c.step st.1 (st.2 + x.1) x.2).1, st.2 + x.1), (V.c.step st.1 (st.2 + x.1) x.2).2)

theorem objStepClocked_eq : V.objStepClocked = V.c.objStepClocked := rfl

/-- in the order of the C++: read the clock, then run the call -/
theorem objStepClocked_apply (s : σ) (t : Time) (d : Nat) (op : Op) :
    V.objStepClocked (s, t) (d, op) =
      (let t' := t + d; let r := V.c.step s t' op; ((r.1, t'), r.2)) := rfl

/-- `Explains` for a container that reads the clock under its lock and was constructed when the clock
showed `t0`; the clock readings of the explanation never decrease. -/
structure ExplainsClocked (t0 : Time) (h : KHistory) (lin : KLin) : Prop where
  isLin : Conc.IsLinearization V.objStepClocked (V.s0, t0) h lin
  times : TimesFrom t0 (lin.ops t0)
  outputs : (V.c.run V.s0 (lin.ops t0)).2 = lin.outs

theorem linearization_is_history_clocked {t0 : Time} {h : KHistory} {lin : KLin}
    (hl : Conc.IsLinearization V.objStepClocked (V.s0, t0) h lin) :
    TimesFrom t0 (lin.ops t0) ∧ (V.c.run V.s0 (lin.ops t0)).2 = lin.outs ∧
      (V.c.runA V.s0 (lin.ops t0)).2.1 = lin.outs ∧
      Conc.finalState V.objStepClocked (V.s0, t0) (lin.map fun x => (x.op, x.out)) =
        ((V.c.run V.s0 (lin.ops t0)).1, lastStamp t0 (lin.map (·.op))) := by
  have h1 := (V.c.legal_clocked_iff_run V.s0 t0 _).mp hl.legal
  have h2 := V.c.finalState_clocked_eq_run V.s0 t0 (lin.map fun x => (x.op, x.out))
  simp only [List.map_map] at h1 h2
  refine ⟨timesFrom_stamps _ _, h1, ?_, h2⟩
  rw [V.outputs_eq]; exact h1

theorem explainsClocked {t0 : Time} {h : KHistory} {lin : KLin}
    (hl : Conc.IsLinearization V.objStepClocked (V.s0, t0) h lin) : V.ExplainsClocked t0 h lin :=
  have h := V.linearization_is_history_clocked hl
  ⟨hl, h.1, h.2.1⟩

/-- **C06 for a container that reads the clock under its lock.** Every history of the lock-protected
implementation (any number of threads, any schedule, any clock behaviour) has a sequential explanation
with non-decreasing clock readings. -/
theorem conc_explained_clocked {t0 : Time} {h : KHistory}
    (hh : Conc.ImplHistory V.objStepClocked (V.s0, t0) h) : ∃ lin, V.ExplainsClocked t0 h lin :=
  (Conc.locked_object_linearizable hh).imp fun _ hl => V.explainsClocked hl

/-- as `linearization_sequential_rules`; the readings being monotone, for any container -/
theorem linearization_clocked_sequential_rules {t0 : Time} {h : KHistory} {lin : KLin}
    (hl : Conc.IsLinearization V.objStepClocked (V.s0, t0) h lin) :
    V.ExplainsClocked t0 h lin ∧ V.SeqRules (lin.ops t0) :=
  ⟨V.explainsClocked hl, V.seqRules_mono _ t0 (timesFrom_stamps _ _)⟩

/-- **C06 ∘ (C01, C02, C03, C05, C09, C17), clock read under the lock.** For *any* container model: if
every call reads the clock inside its critical section, every concurrent history has a sequential
explanation with non-decreasing clock readings, and that explanation obeys every policy-independent
sequential rule of `Properties.lean`.  `conc_clocked_C01` … `conc_clocked_C17` are the fields of
`SeqRules` one at a time. -/
theorem conc_clocked_sequential_rules (t0 : Time) (h : KHistory)
    (hh : Conc.ImplHistory V.objStepClocked (V.s0, t0) h) :
    ∃ lin, V.ExplainsClocked t0 h lin ∧ V.SeqRules (lin.ops t0) :=
  (V.conc_explained_clocked hh).imp fun _ hl => ⟨hl, V.seqRules_mono _ t0 hl.times⟩

/-- concurrent form of `C01` (`Properties.lean`), clock read under the lock -/
theorem conc_clocked_C01 (t0 : Time) (h : KHistory) (hh : Conc.ImplHistory V.objStepClocked (V.s0, t0) h) :
    ∃ lin, V.ExplainsClocked t0 h lin ∧
      ∀ (p q : List (Time × Atom)) (now : Time) (k : Key) (pk : Bool) (v : Val) (n : Nat),
        V.history (lin.ops t0) = p ++ (now, .look k pk (some (v, n))) :: q →
        ∃ d, lastWrite p k = some (v, d) ∧ (V.fl = .lazy → now < d) :=
  (V.conc_clocked_sequential_rules t0 h hh).imp fun _ r => ⟨r.1, r.2.C01⟩

/-- concurrent form of `C02_bound` (`Properties.lean`), clock read under the lock -/
theorem conc_clocked_C02_bound (hfl : V.fl ≠ .eager) (t0 : Time) (h : KHistory)
    (hh : Conc.ImplHistory V.objStepClocked (V.s0, t0) h) :
    ∃ lin, V.ExplainsClocked t0 h lin ∧ (V.abs (V.c.runA V.s0 (lin.ops t0)).1).size ≤ V.cap :=
  (V.conc_clocked_sequential_rules t0 h hh).imp fun _ r => ⟨r.1, r.2.C02_bound hfl⟩

/-- concurrent form of `C03` (`Properties.lean`), clock read under the lock -/
theorem conc_clocked_C03 (t0 : Time) (h : KHistory) (hh : Conc.ImplHistory V.objStepClocked (V.s0, t0) h) :
    ∃ lin, V.ExplainsClocked t0 h lin ∧
      ∀ (p q : List (Time × Atom)) (now : Time) (x : Atom),
        V.history (lin.ops t0) = p ++ (now, x) :: q → x ≠ .clear →
        ∃ a a' ks, ARun V.fl V.cap A.empty p a ∧ AStep V.fl V.cap a now x a' ∧ allowedLoss a x a' ks ∧
          ∀ k' y, a.get k' = some y → liveAt V.fl now y → k' ∉ ks →
            (∀ k v al d, x = .ins k v al d true → k' ≠ k) → a'.get k' = some y :=
  (V.conc_clocked_sequential_rules t0 h hh).imp fun _ r => ⟨r.1, r.2.C03⟩

/-- concurrent form of `C05` (`Properties.lean`), clock read under the lock -/
theorem conc_clocked_C05 (t0 : Time) (h : KHistory) (hh : Conc.ImplHistory V.objStepClocked (V.s0, t0) h) :
    ∃ lin, V.ExplainsClocked t0 h lin ∧
      ∀ (p q : List (Time × Atom)) (now : Time) (k : Key) (pk : Bool) (r : Option (Val × Nat)),
        V.history (lin.ops t0) = p ++ (now, .look k pk r) :: q →
        ∃ a a', ARun V.fl V.cap A.empty p a ∧ Coupled a (lastWrite p) ∧
          ∀ y, a.get k = some y → now < y.2 → r.map (·.1) = some y.1 ∧ a' = a :=
  (V.conc_clocked_sequential_rules t0 h hh).imp fun _ r => ⟨r.1, r.2.C05⟩

/-- concurrent form of `C09` (`Properties.lean`), clock read under the lock -/
theorem conc_clocked_C09 (t0 : Time) (h : KHistory) (hh : Conc.ImplHistory V.objStepClocked (V.s0, t0) h) :
    ∃ lin, V.ExplainsClocked t0 h lin ∧
      ∀ (p q : List (Time × Atom)) (now : Time) (k : Key) (v : Val) (al : Allow) (d : Time) (ok : Bool),
        V.history (lin.ops t0) = p ++ (now, .ins k v al d ok) :: q →
        ∃ a a', ARun V.fl V.cap A.empty p a ∧
          (al = .insertOrUpdate → ok = true) ∧
          (al = .insert → (ok = true ↔ (a.get k = none ∨ (V.fl = .lazy ∧ ∃ y, a.get k = some y ∧ y.2 ≤ now)))) ∧
          (al = .update → (ok = true ↔ a.get k ≠ none)) ∧
          (ok = false → a' = a) ∧ (ok = true → a'.get k = some (v, d)) :=
  (V.conc_clocked_sequential_rules t0 h hh).imp fun _ r => ⟨r.1, r.2.C09⟩

/-- concurrent form of `C17` (`Properties.lean`), clock read under the lock -/
theorem conc_clocked_C17 (hfl : V.fl ≠ .plain) (t0 : Time) (h : KHistory)
    (hh : Conc.ImplHistory V.objStepClocked (V.s0, t0) h) :
    ∃ lin, V.ExplainsClocked t0 h lin ∧
      ∀ (p q : List (Time × Atom)) (now : Time) (n : Nat),
        V.history (lin.ops t0) = p ++ (now, .reap n) :: q →
        ∃ a a', ARun V.fl V.cap A.empty p a ∧ AStep V.fl V.cap a now (.reap n) a' ∧
          a'.size + n = a.size ∧
          (∀ k y, a.get k = some y → now < y.2 → a'.get k = some y) ∧
          (∀ k y, a'.get k = some y → now < y.2 ∧ a.get k = some y) :=
  (V.conc_clocked_sequential_rules t0 h hh).imp fun _ r => ⟨r.1, r.2.C17 hfl⟩

end Verified

/-- **ut_map / ut_set, `thread_safe::yes`.** Every concurrent history (any number of threads, any
schedule, any behaviour of the steady clock, the map constructed when it showed `t0`) has a sequential
explanation with non-decreasing clock readings that obeys the policy-independent rules (C01, C03, C05,
C09, C17; C02's bound does not apply to an unbounded map) and **C04**: a lookup reports a value only
strictly before the deadline of the key's latest surviving write. -/
theorem utmapV_conc (ttlMs : Nat) (t0 : Time) (h : KHistory)
    (hh : Conc.ImplHistory (utmapV ttlMs).objStepClocked ((utmapV ttlMs).s0, t0) h) :
    ∃ lin, (utmapV ttlMs).ExplainsClocked t0 h lin ∧ (utmapV ttlMs).SeqRules (lin.ops t0) ∧
      ∀ (p q : List (Time × Atom)) (now : Time) (k : Key) (pk : Bool) (v : Val) (n : Nat),
        (utmapV ttlMs).history (lin.ops t0) = p ++ (now, .look k pk (some (v, n))) :: q →
        ∃ d, lastWrite p k = some (v, d) ∧ now < d :=
  ((utmapV ttlMs).conc_clocked_sequential_rules t0 h hh).imp fun lin r =>
    ⟨r.1, r.2, fun p q now k pk v n hs => C04_utmap ttlMs (lin.ops t0) t0 r.1.times p q now k pk v n hs⟩

/-- **C04 for ut_map / ut_set, concurrent** (on its own). -/
theorem conc_C04_utmap (ttlMs : Nat) (t0 : Time) (h : KHistory)
    (hh : Conc.ImplHistory (utmapV ttlMs).objStepClocked ((utmapV ttlMs).s0, t0) h) :
    ∃ lin, (utmapV ttlMs).ExplainsClocked t0 h lin ∧
      ∀ (p q : List (Time × Atom)) (now : Time) (k : Key) (pk : Bool) (v : Val) (n : Nat),
        (utmapV ttlMs).history (lin.ops t0) = p ++ (now, .look k pk (some (v, n))) :: q →
        ∃ d, lastWrite p k = some (v, d) ∧ now < d :=
  (utmapV_conc ttlMs t0 h hh).imp fun _ r => ⟨r.1, r.2.2⟩

/-! ## Non-vacuity: histories of the machine to which the theorems apply -/

namespace ConcExample
open Conc

abbrev L : Verified RecState := lruV 2 (by decide)

def opIns : Time × Op := (5 * msNs, .insert 1 10 .insertOrUpdate 0)
def opFind : Time × Op := (3 * msNs, .find 1 false)

def hist : CHistory := [.inv 0 opIns, .inv 1 opFind, .res 1 (.opt (some 10)), .res 0 (.bool true)]

/-- Thread 1 read the clock (3 ms) before thread 0 did (5 ms) but got the lock after it: in lock order
the readings go backwards. -/
theorem hist_impl : ImplHistory L.objStep L.s0 hist :=
  implHistory_nested L.objStep L.s0 { cap := 7, ents := [] } opIns opFind

example := conc_C10_lru 2 (by decide) hist hist_impl

/-- that explanation, explicitly; its clock readings are not monotone -/
example : Legal L.objStep L.s0 [(opIns, .bool true), (opFind, .opt (some 10))] := ⟨rfl, rfl, trivial⟩

example : (L.c.run L.s0 [opIns, opFind]).2 = [.bool true, .opt (some 10)] := rfl

example : ¬ TimesFrom 0 [opIns, opFind] := by simp [TimesFrom, opIns, opFind, msNs]

example {σ : Type} (V : Verified σ) : ImplHistory V.objStep V.s0 [] := ⟨_, Exec.refl⟩

example {σ : Type} (V : Verified σ) (x : Time × Op) :
    ImplHistory V.objStep V.s0 [.inv 0 x, .res 0 (V.objStep V.s0 x).2] := by
  have e0 : Exec (IStep V.objStep) (iInit V.s0) [] _ := Exec.refl
  have e1 := Exec.snoc e0 (IStep.inv _ 0 x rfl)
  have e2 := Exec.silent e1 (IStep.acquire _ 0 x rfl rfl)
  have e3 := Exec.silent e2 (IStep.finish _ 0 x rfl rfl)
  have e4 := Exec.silent e3 (IStep.release _ 0 _ rfl rfl)
  have e5 := Exec.snoc e4 (IStep.res _ 0 _ rfl)
  exact ⟨_, e5⟩

/-- ut_map constructed at clock 0: thread 0 inserts key 1 (the clock has advanced 2 ms when it reads it
under the lock), thread 1's overlapping `find(1)` gets the lock next (1 ms later) -/
abbrev U : Verified UtMapState := utmapV 100

def kIns : Nat × Op := (2 * msNs, .insert 1 10 .insertOrUpdate 0)
def kFind : Nat × Op := (1 * msNs, .find 1 false)

def khist : KHistory := [.inv 0 kIns, .inv 1 kFind, .res 1 (.opt (some 10)), .res 0 (.bool true)]

theorem khist_impl : ImplHistory U.objStepClocked (U.s0, 0) khist :=
  implHistory_nested U.objStepClocked (U.s0, 0) (U.s0, 0) kIns kFind

example := utmapV_conc 100 0 khist khist_impl

end ConcExample

end Verif

#print axioms Verif.Core.legal_iff_run
#print axioms Verif.Verified.linearization_is_history
#print axioms Verif.Verified.conc_explained
#print axioms Verif.Verified.linearization_sequential_rules
#print axioms Verif.Verified.conc_sequential_rules
#print axioms Verif.Verified.conc_C01
#print axioms Verif.Verified.conc_C02_bound
#print axioms Verif.Verified.conc_C03
#print axioms Verif.Verified.conc_C05
#print axioms Verif.Verified.conc_C09
#print axioms Verif.Verified.conc_C17
#print axioms Verif.lruV_conc
#print axioms Verif.mruV_conc
#print axioms Verif.fifoV_conc
#print axioms Verif.rrV_conc
#print axioms Verif.lfuV_conc
#print axioms Verif.lfudaV_conc
#print axioms Verif.tlruV_conc
#print axioms Verif.utlruV_conc
#print axioms Verif.conc_C10_lru
#print axioms Verif.conc_C13_mru
#print axioms Verif.conc_C12_fifo
#print axioms Verif.conc_C11_lfu
#print axioms Verif.conc_C15_rr
#print axioms Verif.conc_C10_C16_tlru
#print axioms Verif.conc_C10_C16_utlru
#print axioms Verif.Core.legal_clocked_iff_run
#print axioms Verif.Verified.linearization_is_history_clocked
#print axioms Verif.Verified.conc_explained_clocked
#print axioms Verif.Verified.linearization_clocked_sequential_rules
#print axioms Verif.Verified.conc_clocked_sequential_rules
#print axioms Verif.Verified.conc_clocked_C01
#print axioms Verif.Verified.conc_clocked_C02_bound
#print axioms Verif.Verified.conc_clocked_C03
#print axioms Verif.Verified.conc_clocked_C05
#print axioms Verif.Verified.conc_clocked_C09
#print axioms Verif.Verified.conc_clocked_C17
#print axioms Verif.utmapV_conc
#print axioms Verif.conc_C04_utmap
#print axioms Verif.ConcExample.hist_impl
#print axioms Verif.ConcExample.khist_impl
